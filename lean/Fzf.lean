-- Root of the `Fzf` library. The audit modules import the property theorems, and through them the
-- lemmas, specifications and models, so `lake build` (whose default targets include the driver) checks the whole development.
import Fzf.Audit.C01
import Fzf.Audit.C02
import Fzf.Audit.C03
import Fzf.Audit.C04
import Fzf.Audit.C05
import Fzf.Audit.C06
import Fzf.Audit.C07
import Fzf.Audit.C08
import Fzf.Audit.C09
import Fzf.Audit.C10
import Fzf.Audit.C11
import Fzf.Audit.C12
import Fzf.Audit.C13
import Fzf.Audit.C14
import Fzf.Audit.C15
import Fzf.Audit.C16
import Fzf.Audit.C17
import Fzf.Audit.C18
import Fzf.Audit.C19
import Fzf.Audit.C20
