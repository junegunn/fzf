import Fzf.Model.KeyDecode
import Fzf.Lemmas.Utf8
import Fzf.Lemmas.Except
/-
The input decoder never indexes out of range and always consumes input.

The decoders are straight-line code in `M` over checked accesses. Their safety is a matter of the
buffer's *length* only — no byte value decides whether an index is in range — so each proof computes
the weakest precondition of the decoder for "returns, with a size within the buffer" by rewriting
with the `post_*` lemmas (Lemmas/Except.lean, and `post_idx_bind` below) and leaves the resulting linear
arithmetic over `b.length` to `omega`. A decoder's size `sz` is bounded as `Fits k b sz`; that a step returns and
has consumed input is `Progress`, which is `Post` of `Consumed`.
-/
namespace Fzf.KeyDecode
open Fzf

theorem post_idx_bind {α : Type} {P : α → Prop} {b : List Nat} {i : Nat} {f : Nat → M α} :
    Post P (idx b i >>= f) ↔ i < b.length ∧ Post P (f (b.getD i 0)) := by
  rw [idx, List.getD_eq_getElem?_getD]
  by_cases h : i < b.length
  · rw [List.getElem?_eq_getElem h]
    exact (and_iff_right h).symm
  · rw [List.getElem?_eq_none (Nat.le_of_not_lt h)]
    exact iff_of_false not_post_error_bind fun h' => h h'.1

/-- What every decoder below ensures of the size `sz` it reports for the buffer `b`, provided the
    caller has checked that `b` holds the `k` bytes that led to this decoder. -/
abbrev Fits (k : Nat) (b : List Nat) (sz : Nat) : Prop := 1 ≤ sz ∧ (k ≤ b.length → sz ≤ b.length)

theorem fallbackKey_sz (b : List Nat) : Fits 2 b (fallbackKey b).2 := by
  have hw := (Utf8.decodeRune_width (b.drop 1)).1
  rw [List.length_drop] at hw
  unfold fallbackKey
  split <;> simp only [] <;> omega

theorem seqModified_ok (b : List Nat) : Post (fun r => Fits 4 b r.2) (seqModified b) := by
  have := fallbackKey_sz b
  simp only [seqModified, post_ite, post_pure, post_idx_bind]
  omega

/-- The one kind of `==` test that matters for safety. Those on bytes are left as they are, so that
    `omega` takes them for atoms and does not reason about byte values. -/
theorem length_beq {b : List Nat} {n : Nat} : (b.length == n) = true ↔ b.length = n := beq_iff_eq

theorem seqDigit_ok (b : List Nat) (b2 : Nat) : Post (fun r => Fits 3 b r.2) (seqDigit b b2) := by
  have := fallbackKey_sz b
  obtain ⟨r, hr, hfit⟩ := seqModified_ok b
  simp only [seqDigit, isPaste, hr, post_ite, post_pure, post_ok, post_idx_bind, Bool.and_eq_true, decide_eq_true_eq, length_beq]
  omega

theorem mouseSequence_sz (mouse : Bool) (yoffset : Int) (cs : Clicks) (b : List Nat) :
    Fits 3 b (mouseSequence mouse yoffset cs b).2.1 := by
  have hle := (List.takeWhile_prefix (l := b.drop 3) (fun c => c != 109 && c != 77)).length_le
  -- either 3, or the report up to and including its terminator, which the loop has found
  fun_cases mouseSequence mouse yoffset cs b
  all_goals simp +zetaDelta only [List.length_drop] at *
  all_goals omega

theorem cursorReport_sz (b : List Nat) (n : Nat) (h : cursorReport b = some n) : 1 ≤ n ∧ n ≤ b.length := by
  revert h
  fun_cases cursorReport b
  case case3 rest _ _ rest2 h1 _ _ tail h2 =>
    -- both `drop`s found their terminator: digits and terminators lie within `rest`
    have l1 := congrArg List.length h1
    have l2 := congrArg List.length h2
    simp only [List.length_drop, List.length_cons] at l1 l2 ⊢
    rintro ⟨rfl⟩
    omega
  all_goals nofun               -- every other branch returns `none`

theorem seqCSI_ok (mouse : Bool) (yoffset : Int) (cs : Clicks) (alt : Bool) (b : List Nat) :
    Post (fun r => Fits 2 b r.2.1) (seqCSI mouse yoffset cs alt b) := by
  have := fallbackKey_sz b
  have := mouseSequence_sz mouse yoffset cs b
  obtain ⟨r, hr, hfit⟩ := seqDigit_ok b (b.getD 2 0)
  simp only [seqCSI, hr, ok_bind, post_ite, post_pure, post_idx_bind]
  omega

/-- `sz` is the size reported, `b'` the buffer it is to be dropped from: the given one, or that without a
    doubled ESC. -/
theorem escSequence_ok (mouse : Bool) (yoffset : Int) (cs : Clicks) (b : List Nat) :
    Post (fun (_, sz, b', _) => 1 ≤ sz ∧ b'.length ≤ b.length ∧ (1 ≤ b.length → sz ≤ b'.length))
      (escSequence mouse yoffset cs b) := by
  cases hcr : cursorReport b with
  | some n =>
    have := cursorReport_sz b n hcr
    simp only [escSequence, hcr, post_ite, post_pure]
    omega
  | none =>
    simp only [escSequence, hcr, post_ite, post_pure, post_idx_bind]
    -- the buffer after a doubled ESC was skipped: not longer, and still with the two bytes read so far
    generalize hb' : (if (decide (b.length > 2) && b.getD 1 0 == 27) = true then b.drop 1 else b) = b'
    have hlen : b'.length ≤ b.length ∧ (2 ≤ b.length → 2 ≤ b'.length) := by
      subst hb'; split
      · next h => simp only [Bool.and_eq_true, decide_eq_true_eq] at h; simp only [List.length_drop]; omega
      · omega
    have := fallbackKey_sz b'
    obtain ⟨⟨ev, sz, cs'⟩, hr, hsz⟩ := seqCSI_ok mouse yoffset cs (decide (b.length > 2) && b.getD 1 0 == 27) b'
    simp only [hr, ok_bind, post_pure] at hsz ⊢
    omega

/-- Unless the step waits for the terminal (`none`), fewer bytes are pending afterwards (buffer plus terminal)
    than `b` and `tty` hold. -/
def Consumed (b tty : List Nat) (st : Step) : Prop :=
  ∀ ev b' tty' cs', st = some (ev, b', tty', cs') → b'.length + tty'.length < b.length + tty.length

/-- The step returns, and its result is `Consumed b tty`, written out (`progress_iff_post`). -/
def Progress (b tty : List Nat) (r : M Step) : Prop :=
  ∃ st, r = .ok st ∧ ∀ ev b' tty' cs', st = some (ev, b', tty', cs') → b'.length + tty'.length < b.length + tty.length

theorem progress_iff_post {b tty : List Nat} {r : M Step} : Progress b tty r ↔ Post (Consumed b tty) r := Iff.rfl

theorem consumed_none {b tty : List Nat} : Consumed b tty none :=
  fun _ _ _ _ he => nomatch he

theorem consumed_some {b tty b' tty' : List Nat} {ev : Ev} {cs' : Clicks} :
    Consumed b tty (some (ev, b', tty', cs')) ↔ b'.length + tty'.length < b.length + tty.length :=
  ⟨fun h => h _ _ _ _ rfl, fun h _ _ _ _ he => by cases he; exact h⟩

theorem escChar_progress (mouse : Bool) (yoffset : Int) (cs : Clicks) (b tty : List Nat) (h : 1 ≤ b.length) :
    Post (Consumed b tty) (escChar mouse yoffset cs b tty) := by
  obtain ⟨⟨ev, sz, b', cs'⟩, he, h1⟩ := escSequence_ok mouse yoffset cs b
  obtain ⟨⟨ev2, sz2, b'', cs''⟩, he2, h2⟩ := escSequence_ok mouse yoffset cs' (b' ++ tty)
  -- each attempt (the second only if `tty` is not empty) reports a size from 1 up to the length of the buffer it
  -- is dropped from, itself no longer than the one decoded: no `throw` is reached, each `drop` removes a byte
  simp only [escChar, he, he2, ok_bind, post_ite, post_pure, consumed_none, consumed_some,
    List.length_append, List.length_drop, List.length_nil, List.isEmpty_iff_length_eq_zero, implies_true, true_and] at h1 h2 ⊢
  omega

/-- **`GetChar` never panics and always consumes input** on a non-empty buffer, whatever the
    bytes, whatever the terminal still has to deliver, with or without mouse support. -/
theorem getChar_progress (mouse : Bool) (yoffset : Int) (cs : Clicks) (b tty : List Nat) (h : b ≠ []) :
    Progress b tty (getChar mouse yoffset cs b tty) := by
  have hl := List.length_pos_iff.mpr h
  have hw := Utf8.decodeRune_width b
  have he := escChar_progress mouse yoffset cs b tty hl
  rw [progress_iff_post]
  simp only [getChar, he, post_ite, post_pure, post_idx_bind, consumed_some, List.length_drop, implies_true, true_and]
  omega

end Fzf.KeyDecode
