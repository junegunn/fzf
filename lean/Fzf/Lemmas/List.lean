/-
Facts about core lists and arrays that are not about fzf.
-/
namespace List
variable {α : Type}

/-- A list that is sorted by an asymmetric relation is determined by its members. -/
theorem Pairwise.eq_of_mem_iff {r : α → α → Prop} (asymm : ∀ a b, r a b → r b a → False)
    {l₁ l₂ : List α} (h₁ : l₁.Pairwise r) (h₂ : l₂.Pairwise r) (h : ∀ a, a ∈ l₁ ↔ a ∈ l₂) : l₁ = l₂ :=
  have nodup {l : List α} (hl : l.Pairwise r) : l.Nodup :=
    List.Pairwise.imp (S := (· ≠ ·)) (fun hab heq => asymm _ _ hab (heq ▸ hab)) hl
  Perm.eq_of_pairwise (fun a b _ _ hab hba => (asymm a b hab hba).elim) h₁ h₂
    ((perm_ext_iff_of_nodup (nodup h₁) (nodup h₂)).2 h)

theorem map_eq_self (f : α → α) {l : List α} (h : ∀ c ∈ l, f c = c) : l.map f = l :=
  (List.map_congr_left (g := id) h).trans (List.map_id l)

theorem getLast?_ne_of_cons {c v : α} {l : List α} (h : (c :: l).getLast? ≠ some v) : l.getLast? ≠ some v :=
  fun e => h (by rw [List.getLast?_cons, e]; rfl)

/-- `l` from `a` on, without its positions `[b, c)`, is a sublist of `l` from `a` on. -/
theorem sublist_skip (l : List α) (a b c : Nat) (hab : a ≤ b) (hbc : b ≤ c) :
    ((l.drop a).take (b - a) ++ l.drop c).Sublist (l.drop a) := by
  have h : (l.drop c).Sublist ((l.drop a).drop (b - a)) := by
    rw [List.drop_drop]; exact List.drop_sublist_drop_left l (by omega)
  simpa only [List.take_append_drop] using h.append_left ((l.drop a).take (b - a))

theorem filterMap_id_of_mapM {β : Type} {f : α → Option (Option β)} {l : List α} {rs : List (Option β)}
    (h : l.mapM f = some rs) : rs.filterMap id = l.filterMap fun a => (f a).join := by
  induction l generalizing rs with
  | nil => cases h; rfl
  | cons a l ih =>
    simp only [List.mapM_cons, Option.bind_eq_bind, Option.bind_eq_some_iff, Option.pure_def, Option.some.injEq] at h
    obtain ⟨b, hfa, bs, hl, rfl⟩ := h
    rw [List.filterMap_cons, List.filterMap_cons, hfa, ← ih hl]; rfl

theorem lt_add_of_mem_map_add_range {s n i : Nat} (h : i ∈ (List.range n).map (s + ·)) : i < s + n :=
  (List.mem_range'_1.mp (List.range'_eq_map_range ▸ h)).2  -- the list is core's `List.range' s n`

theorem getElem?_append_add (a l : List α) (k : Nat) : (a ++ l)[a.length + k]? = l[k]? := by
  rw [List.getElem?_append_right (Nat.le_add_right _ _), Nat.add_sub_cancel_left]

/-- Dropping a prefix in which the head of `p` does not occur keeps every embedding of `p`. -/
theorem sublist_drop_prefix {p pre rest : List α} (hne : p ≠ []) (hpre : p.head hne ∉ pre)
    (h : List.Sublist p (pre ++ rest)) : List.Sublist p rest := by
  obtain ⟨l₁, l₂, rfl, h₁, h₂⟩ := List.sublist_append_iff.mp h
  cases l₁ with
  | nil => exact h₂
  | cons x l₁ => exact absurd (h₁.head_mem (List.cons_ne_nil x l₁)) hpre

/-- Dropping a suffix in which the last element of `p` does not occur keeps every embedding of `p`. -/
theorem sublist_drop_suffix {p rest suf : List α} (hne : p ≠ []) (hsuf : p.getLast hne ∉ suf)
    (h : List.Sublist p (rest ++ suf)) : List.Sublist p rest := by
  obtain ⟨l₁, l₂, rfl, h₁, h₂⟩ := List.sublist_append_iff.mp h
  by_cases h2 : l₂ = []
  · rw [h2, List.append_nil]; exact h₁
  · exact absurd (List.getLast_append_of_ne_nil hne h2 ▸ h₂.getLast_mem h2) hsuf

theorem dropLast_set_last {l : List α} {i : Nat} (x : α) (h : l.length ≤ i + 1) :
    (l.set i x).dropLast = l.dropLast := by
  rw [List.dropLast_eq_take, List.dropLast_eq_take, List.length_set,
    List.take_set_of_le (Nat.sub_le_of_le_add h)]

/-- Setting a position to something with the same image leaves the mapped list as it is. -/
theorem map_set_of_eq {β : Type} (f : α → β) {l : List α} {i : Nat} {a b : α} (h : l[i]? = some a)
    (hf : f b = f a) : (l.set i b).map f = l.map f := by
  obtain ⟨hlt, rfl⟩ := List.getElem_of_getElem? h
  rw [List.map_set, hf]
  exact (List.map_set ..).symm.trans (congrArg _ (List.set_getElem_self hlt))

theorem lookup_cons_ne [BEq α] [LawfulBEq α] {β : Type} {k i : α} {v : β} {l : List (α × β)} (hne : i ≠ k) :
    List.lookup i ((k, v) :: l) = List.lookup i l := by
  rw [List.lookup_cons, beq_false_of_ne hne]

theorem merge_congr (le1 le2 : α → α → Bool) (xs ys : List α)
    (h : ∀ x ∈ xs, ∀ y ∈ ys, le1 x y = le2 x y) : List.merge xs ys le1 = List.merge xs ys le2 := by
  simpa only [List.map_id] using List.map_merge (f := id) h

/-- Merge sort only asks `le a b` for `a` earlier in the list than `b`. -/
theorem mergeSort_congr (le1 le2 : α → α → Bool) (l : List α)
    (h : l.Pairwise fun a b => le1 a b = le2 a b) : l.mergeSort le1 = l.mergeSort le2 := by
  fun_induction List.mergeSort l le1 with
  | case1 => simp
  | case2 a => simp
  | case3 a b xs le1 lr _ _ ihl ihr =>
    -- `lr` are the two halves of `a :: b :: xs`
    have e : lr.1.1 ++ lr.2.1 = a :: b :: xs := List.MergeSort.Internal.splitInTwo_fst_append_splitInTwo_snd _
    rw [← e] at h
    obtain ⟨hl, hr, hlr⟩ := List.pairwise_append.mp h
    rw [ihl hl, ihr hr, List.mergeSort]
    exact merge_congr le1 le2 _ _ fun x hx y hy => hlr x (List.mem_mergeSort.mp hx) y (List.mem_mergeSort.mp hy)

end List

namespace Array
variable {α : Type}

theorem toList_drop_getD (a : Array α) (d : α) (k : Nat) (h : k < a.size) :
    a.toList.drop k = a.getD k d :: a.toList.drop (k + 1) := by
  rw [List.drop_eq_getElem_cons (by simpa using h)]; simp [h]

theorem mem_take_getD (a : Array α) (d : α) {n : Nat} {c : α} (h : c ∈ a.toList.take n) :
    ∃ j, j < n ∧ a.getD j d = c := by
  obtain ⟨j, hj, rfl⟩ := List.mem_take_iff_getElem.mp h
  exact ⟨j, (Nat.lt_min.mp hj).1, (Array.getElem_eq_getD d).symm⟩

theorem mem_drop_getD (a : Array α) (d : α) {n : Nat} {c : α} (h : c ∈ a.toList.drop n) :
    ∃ j, n ≤ j ∧ j < a.size ∧ a.getD j d = c := by
  obtain ⟨j, hj, rfl⟩ := List.mem_drop_iff_getElem.mp h
  exact ⟨n + j, Nat.le_add_right n j, Nat.add_comm j n ▸ hj, (Array.getElem_eq_getD d).symm⟩

end Array
