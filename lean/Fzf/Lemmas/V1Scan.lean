import Fzf.Lemmas.Algo
import Fzf.Lemmas.Subseq
import Fzf.Lemmas.List
/-
C02, FuzzyMatchV1: the forward scan never indexes out of range and moves its pattern cursor like the greedy
subsequence test over `scanList` (the array in scan order), so it decides `List.Sublist`.
-/
namespace Fzf.Algo

/-- An array in scan order: reversed when scanning backward. -/
def scanList (fwd : Bool) (a : Array Nat) : List Nat := if fwd then a.toList else a.toList.reverse

theorem scanList_length (fwd : Bool) (a : Array Nat) : (scanList fwd a).length = a.size := by
  cases fwd <;> simp [scanList]

theorem scanList_drop (fwd : Bool) (a : Array Nat) (k : Nat) (h : k < a.size) :
    (scanList fwd a).drop k = a.getD (indexAt k a.size fwd) 0 :: (scanList fwd a).drop (k + 1) := by
  cases fwd
  · show a.toList.reverse.drop k = _ :: a.toList.reverse.drop (k + 1)
    rw [List.drop_eq_getElem_cons (by simpa using h)]
    -- element `k` of the reversed list is element `size - k - 1` of the array
    simp [indexAt, show a.size - k - 1 < a.size by omega, Nat.sub_right_comm]
  · exact Array.toList_drop_getD a 0 k h

/-- The forward scan of V1 from scan position `k` is the greedy subsequence test on what is left of
    pattern and text (both in scan order); an end is only reported together with a start. -/
theorem v1Forward_spec (cfg : Cfg) (cs norm fwd : Bool) (t p : Text) (n k pidx : Nat) (sidx : Option Nat)
    (hk : k + n = t.size) (hp : pidx < p.size) :
    Post (fun (_, start, stop) => stop.isSome = greedyBy (fun c pc => foldRune cfg cs norm c == pc)
          ((scanList fwd p).drop pidx) ((scanList fwd t).drop k) ∧
        (stop.isSome = true ∨ sidx.isSome = true → start.isSome = true))
      (v1Forward cfg cs norm fwd t p (List.range' k n) pidx sidx) := by
  induction n generalizing k pidx sidx with
  | zero =>
    rw [scanList_drop fwd p pidx hp, List.drop_eq_nil_of_le (as := scanList fwd t) (by rw [scanList_length]; omega)]
    exact post_pure.mpr ⟨rfl, fun h => h.resolve_left (by simp)⟩
  | succ n ih =>
    have hkt : k < t.size := by omega
    rw [List.range'_succ, v1Forward, get_ok t _ (indexAt_lt fwd hkt), ok_bind, get_ok p _ (indexAt_lt fwd hp), ok_bind,
      scanList_drop fwd p pidx hp, scanList_drop fwd t k hkt, greedyBy]
    by_cases hc : (foldRune cfg cs norm (t.getD (indexAt k t.size fwd) 0) == p.getD (indexAt pidx p.size fwd) 0) = true
    · rw [if_pos hc, if_pos hc]
      by_cases hlast : (pidx + 1 == p.size) = true
      · rw [if_pos hlast, List.drop_eq_nil_of_le (by rw [scanList_length]; exact Nat.le_of_eq (beq_iff_eq.mp hlast).symm)]
        exact post_pure.mpr ⟨by rw [greedyBy]; rfl, fun _ => by cases sidx <;> rfl⟩
      · rw [if_neg hlast]
        have hne : pidx + 1 ≠ p.size := by simpa using hlast
        exact (ih (k + 1) (pidx + 1) (if sidx.isNone then some k else sidx) (by omega) (by omega)).mono
          fun r ⟨h1, h2⟩ => ⟨h1, fun h => h2 (h.imp_right fun _ => by cases sidx <;> rfl)⟩
    · rw [if_neg hc, if_neg hc]
      have := ih (k + 1) pidx sidx (by omega) hp
      rwa [scanList_drop fwd p pidx hp] at this

theorem v1Forward_decides (cfg : Cfg) (cs norm fwd : Bool) (t p : Text) (hp : 0 < p.size) :
    Post (fun (_, start, stop) => (stop.isSome = true ↔ List.Sublist p.toList (t.toList.map (foldRune cfg cs norm))) ∧
        (stop.isSome = true → start.isSome = true))
      (v1Forward cfg cs norm fwd t p (List.range t.size) 0 Option.none) := by
  rw [List.range_eq_range']
  refine (v1Forward_spec cfg cs norm fwd t p t.size 0 0 Option.none (Nat.zero_add _) hp).mono
    fun r ⟨hsub, hst⟩ => ⟨?_, fun h => hst (Or.inl h)⟩
  rw [hsub, greedyBy_iff _ (foldRune cfg cs norm) _ _ fun _ _ _ => beq_iff_eq]
  cases fwd
  · show List.Sublist p.toList.reverse (t.toList.reverse.map _) ↔ _
    rw [List.map_reverse]
    exact List.reverse_sublist
  · exact Iff.rfl

end Fzf.Algo
