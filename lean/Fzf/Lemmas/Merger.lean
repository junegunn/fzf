import Fzf.Lemmas.Rank
/-
The lazy k-way merge of `Merger.mergedGet`: every round appends the least of the remaining
results, so the merged prefix is sorted and, once everything was merged, a permutation of the input.
The scan for the best head is a fold that keeps the least candidate (`pick`, `foldl_pick`) of the lists' heads
(`cands`). `mergeN` is so many rounds; `Inv` is what holds between rounds, in terms of what the cursors have
consumed from the lists (`takes`) and what they leave (`rems`).
-/
namespace Fzf.Rank

def pick (lt : α → α → Bool) : Option α → α → Option α
  | none, x => some x
  | some b, x => if lt x b then some x else some b

/-- Folding `pick` from `best` over `xs` ends with a least member of `best.toList ++ xs`, if `lt` is
    transitive and any two members compare one way or the other. -/
theorem foldl_pick {lt : α → α → Bool} (htr : ∀ a b c, lt a b = true → lt b c = true → lt a c = true)
    (xs : List α) : ∀ (best : Option α), best.toList ++ xs ≠ [] →
      (best.toList ++ xs).Pairwise (fun a b => lt a b = true ∨ lt b a = true) →
      ∃ r, xs.foldl (pick lt) best = some r ∧ r ∈ best.toList ++ xs ∧
        ∀ x ∈ best.toList ++ xs, x = r ∨ lt r x = true := by
  induction xs with
  | nil =>
    intro best hne _
    cases best with
    | none => exact absurd rfl hne
    | some b => exact ⟨b, rfl, List.mem_singleton.mpr rfl, fun _ hx => Or.inl (List.mem_singleton.mp hx)⟩
  | cons x xs ih =>
    intro best hne hp
    cases best with
    | none => exact ih (some x) hne hp  -- `x` is the first candidate; the list is `x :: xs` either way
    | some b =>
      -- go on with the winner `w`; the loser `z` is above `w`, so above the least
      have key : ∀ w z, lt w z = true → (w :: xs).Pairwise (fun a b => lt a b = true ∨ lt b a = true) →
          ∃ r, xs.foldl (pick lt) (some w) = some r ∧ r ∈ z :: w :: xs ∧ ∀ y ∈ z :: w :: xs, y = r ∨ lt r y = true := by
        intro w z hwz hp'
        obtain ⟨r, hr, hm, hmin⟩ := ih (some w) (List.cons_ne_nil _ _) hp'
        refine ⟨r, hr, List.mem_cons_of_mem z hm, fun y hy => ?_⟩
        rcases List.mem_cons.mp hy with rfl | hy
        · exact Or.inr ((hmin w List.mem_cons_self).elim (fun h => h ▸ hwz) fun h => htr r w y h hwz)
        · exact hmin y hy
      show ∃ r, xs.foldl (pick lt) (if lt x b = true then some x else some b) = some r ∧ _
      cases hc : lt x b with
      | true => exact key x b hc hp.of_cons
      | false =>
        have hbx := (List.rel_of_pairwise_cons hp List.mem_cons_self).resolve_right (hc ▸ Bool.false_ne_true)
        obtain ⟨r, hr, hm, hmin⟩ := key b x hbx (hp.sublist ((List.sublist_cons_self x xs).cons_cons b))
        have hsw {y : α} : y ∈ b :: x :: xs ↔ y ∈ x :: b :: xs := (List.Perm.swap x b xs).mem_iff
        exact ⟨r, hr, hsw.mpr hm, fun y hy => hmin y (hsw.mp hy)⟩

/-- The heads the scan looks at, each with the number of its list (counted from `li`). -/
def cands (zs : List (List R × Nat)) (li : Nat) : List (R × Nat) :=
  (zs.zipIdx li).flatMap fun zi => (zi.1.1[zi.1.2]?.map (·, zi.2)).toList

theorem cands_cons (l : List R) (c : Nat) (rest : List (List R × Nat)) (li : Nat) :
    cands ((l, c) :: rest) li = (l[c]?.map (·, li)).toList ++ cands rest (li + 1) := rfl

theorem bestHead_eq_foldl (tac : Bool) (zs : List (List R × Nat)) : ∀ (li : Nat) (best : Option (R × Nat)),
    bestHead tac zs li best = (cands zs li).foldl (pick fun a b => compareRanks64 a.1 b.1 tac) best := by
  induction zs with
  | nil => exact fun _ _ => rfl
  | cons z rest ih =>
    intro li best
    unfold bestHead
    rw [cands_cons]
    cases z.1[z.2]? with
    | none => exact ih (li + 1) best
    | some r =>
      -- both branches on `best` are one `pick`
      refine Eq.trans ?_ (ih (li + 1) (pick _ best (r, li)))
      cases best <;> rfl

/-- What has been consumed from the lists so far, for cursor positions `cs`. -/
def takes : List (List R) → List Nat → List R
  | l :: ls, c :: cs => l.take c ++ takes ls cs
  | _, _ => []

/-- What is left of the lists, for cursor positions `cs`. -/
def rems : List (List R) → List Nat → List R
  | l :: ls, c :: cs => l.drop c ++ rems ls cs
  | _, _ => []

theorem takes_rems_perm (lists : List (List R)) : ∀ (cur : List Nat), cur.length = lists.length →
    (takes lists cur ++ rems lists cur).Perm lists.flatten := by
  induction lists with
  | nil => exact fun _ _ => .nil
  | cons l ls ih =>
    intro cur h
    cases cur with
    | nil => cases h
    | cons c cur =>
      have h1 : (l.take c ++ takes ls cur ++ (l.drop c ++ rems ls cur)).Perm
          (l.take c ++ l.drop c ++ (takes ls cur ++ rems ls cur)) := by
        simp only [List.append_assoc]
        exact (List.perm_append_comm_assoc ..).append_left _
      rw [List.take_append_drop] at h1
      exact h1.trans ((ih cur (Nat.succ.inj h)).append_left l)

theorem rems_sublist (lists : List (List R)) (cur : List Nat) : (rems lists cur).Sublist lists.flatten := by
  fun_induction rems lists cur with
  | case1 l ls c cur ih => exact (List.drop_sublist c l).append ih
  | case2 => exact List.nil_sublist _

/-- The candidates are among what is left, and everything left is a candidate or above one: the head of its list. -/
theorem cands_cover_rems (tac : Bool) {lists : List (List R)}
    (hs : ∀ l ∈ lists, l.Pairwise fun a b => compareRanks64 a b tac = true) : ∀ (cur : List Nat) (li : Nat),
    ((cands (lists.zip cur) li).map (·.1)).Sublist (rems lists cur) ∧
      ∀ y ∈ rems lists cur, ∃ cand ∈ cands (lists.zip cur) li,
        y = cand.1 ∨ compareRanks64 cand.1 y tac = true := by
  induction lists with
  | nil => exact fun _ _ => ⟨List.nil_sublist _, fun _ hy => nomatch hy⟩
  | cons l ls ih =>
    intro cur li
    cases cur with
    | nil => exact ⟨List.nil_sublist _, fun _ hy => nomatch hy⟩
    | cons c cur =>
      obtain ⟨ih1, ih2⟩ := ih (fun l' hl' => hs l' (List.mem_cons_of_mem _ hl')) cur (li + 1)
      have hp := (hs l List.mem_cons_self).sublist (List.drop_sublist c l)
      -- the candidate `l[c]?` is the head of what is left of `l`, the sorted list `d := l.drop c`
      simp only [List.zip_cons_cons, cands_cons, rems, List.map_append, List.mem_append, ← List.head?_drop]
      generalize l.drop c = d at hp ⊢
      refine ⟨List.Sublist.append ?_ ih1, fun y hy => ?_⟩
      · cases d with
        | nil => exact .slnil
        | cons r t => exact (List.nil_sublist t).cons_cons r
      · rcases hy with hy | hy
        · cases d with
          | nil => cases hy
          | cons r t =>
            exact ⟨(r, li), Or.inl List.mem_cons_self, (List.mem_cons.mp hy).imp id (List.rel_of_pairwise_cons hp)⟩
        · obtain ⟨cand, hcand, hor⟩ := ih2 y hy
          exact ⟨cand, Or.inr hcand, hor⟩

/-- Advancing cursor `i` moves exactly its head from what is left to what was taken. -/
theorem takes_rems_advance (lists : List (List R)) : ∀ (cur : List Nat) (i : Nat) (l : List R) (c : Nat) (r : R),
    lists[i]? = some l → cur[i]? = some c → l[c]? = some r →
    (takes lists (cur.set i (c + 1))).Perm (takes lists cur ++ [r]) ∧
      (rems lists cur).Perm (r :: rems lists (cur.set i (c + 1))) := by
  induction lists with
  | nil => intro _ _ _ _ _ h; cases h
  | cons l0 ls ih =>
    intro cur i l c r h1 h2 h3
    cases cur with
    | nil => cases h2
    | cons c0 cur =>
      cases i with
      | zero =>
        cases h1; cases h2
        -- `l.take (c + 1)` is `l.take c ++ [r]`, and `l.drop c` is `r :: l.drop (c + 1)`
        simp only [List.set_cons_zero, takes, rems, List.take_add_one, List.drop_eq_getElem?_toList_append (i := c), h3]
        exact ⟨by rw [List.append_assoc, List.append_assoc]; exact List.perm_append_comm.append_left _, .refl _⟩
      | succ i =>
        obtain ⟨ih1, ih2⟩ := ih cur i l c r h1 h2 h3
        simp only [List.set_cons_succ, takes, rems, List.append_assoc]
        exact ⟨ih1.append_left _, (ih2.append_left _).trans List.perm_middle⟩

/-- What holds of a merger between rounds. -/
structure Inv (m : Merger) : Prop where
  len : m.cursors.length = m.lists.length
  perm : m.merged.Perm (takes m.lists m.cursors)
  sorted : m.merged.Pairwise fun a b => compareRanks64 a b m.tac = true
  below : ∀ x ∈ m.merged, ∀ y ∈ rems m.lists m.cursors, compareRanks64 x y m.tac = true

theorem new_inv (lists : List (List R)) (sorted tac : Bool) : Inv (Merger.new lists sorted tac) := by
  have takes_zero : ∀ (ls : List (List R)), takes ls (ls.map fun _ => 0) = [] := by
    intro ls; induction ls with
    | nil => rfl
    | cons l ls ih => exact ih
  exact ⟨List.length_map _, (takes_zero lists).symm ▸ .nil, .nil, fun _ hx => nomatch hx⟩

theorem Inv.count {m : Merger} (hinv : Inv m) :
    m.merged.length + (rems m.lists m.cursors).length = m.lists.flatten.length := by
  rw [hinv.perm.length_eq, ← List.length_append]
  exact (takes_rems_perm _ _ hinv.len).length_eq

/-- The scan ends at a least member of what is left, the head of its list. -/
theorem bestHead_least (tac : Bool) {lists : List (List R)} {cur : List Nat}
    (hs : ∀ l ∈ lists, l.Pairwise fun a b => compareRanks64 a b tac = true)
    (hd : DistinctIdx (rems lists cur)) (hne : rems lists cur ≠ []) :
    ∃ r k l c, bestHead tac (lists.zip cur) 0 none = some (r, k) ∧ lists[k]? = some l ∧ cur[k]? = some c ∧
      l[c]? = some r ∧ ∀ y ∈ rems lists cur, y = r ∨ compareRanks64 r y tac = true := by
  obtain ⟨hsub, habove⟩ := cands_cover_rems tac hs cur 0
  obtain ⟨y0, hy0⟩ := List.exists_mem_of_ne_nil _ hne
  obtain ⟨cand0, hcand0, _⟩ := habove y0 hy0
  -- the heads have distinct item numbers, so any two compare one way or the other
  obtain ⟨⟨r, i⟩, hfold, hmem, hmin⟩ := foldl_pick (lt := fun a b : R × Nat => compareRanks64 a.1 b.1 tac)
    (fun _ _ _ => cmp_trans) (cands (lists.zip cur) 0) none (List.ne_nil_of_mem hcand0)
    ((List.pairwise_map.mp (hd.sublist hsub)).imp (cmp_total tac))
  -- a candidate is the head `l[c]` of some list `k`
  obtain ⟨⟨⟨l, c⟩, k⟩, hk, he⟩ := List.mem_flatMap.mp hmem
  obtain ⟨r', hlc, hrk⟩ := Option.map_eq_some_iff.mp (Option.mem_toList.mp he)
  cases hrk
  obtain ⟨hl, hc⟩ := List.getElem?_zip_eq_some.mp (List.mem_zipIdx_iff_getElem?.mp hk)
  refine ⟨r, k, l, c, by rw [bestHead_eq_foldl, hfold], hl, hc, hlc, fun y hy => ?_⟩
  -- the least head is at or below the head of `y`'s list, which is `y` or below it
  obtain ⟨cand, hcand, hor⟩ := habove y hy
  rcases hmin cand hcand with rfl | hlt
  · exact hor
  · exact Or.inr (hor.elim (fun e => e ▸ hlt) fun hlt' => cmp_trans hlt hlt')

/-- While something is left, a round succeeds: it appends one result, moves the cursors and keeps
    the invariant. -/
theorem mergeStep_inv (m : Merger)
    (hs : ∀ l ∈ m.lists, l.Pairwise fun a b => compareRanks64 a b m.tac = true)
    (hd : DistinctIdx m.lists.flatten) (hinv : Inv m) (hne : rems m.lists m.cursors ≠ []) :
    ∃ r cur, m.mergeStep = some { m with merged := m.merged ++ [r], cursors := cur } ∧
      Inv { m with merged := m.merged ++ [r], cursors := cur } := by
  have hdr : DistinctIdx (rems m.lists m.cursors) := hd.sublist (rems_sublist _ _)
  obtain ⟨r, k, l, c, hbest, hl, hc, hlc, hleast⟩ := bestHead_least m.tac hs hdr hne
  obtain ⟨hp1, hp2⟩ := takes_rems_advance m.lists m.cursors k l c r hl hc hlc
  have hstep : m.mergeStep = some { m with merged := m.merged ++ [r], cursors := m.cursors.set k (c + 1) } := by
    simp only [Merger.mergeStep, hbest, List.getD_eq_getElem?_getD, hc, Option.getD_some]
  refine ⟨r, _, hstep, {
    len := List.length_set.trans hinv.len
    perm := (hinv.perm.append_right [r]).trans hp1.symm
    sorted := List.pairwise_append.mpr ⟨hinv.sorted, List.pairwise_singleton _ _, fun x hx y hy => ?_⟩
    below := fun x hx y hy => ?_ }⟩
  · -- `r` was among what is left, so all of `merged` is below it
    cases List.mem_singleton.mp hy
    exact hinv.below x hx r (hp2.mem_iff.mpr List.mem_cons_self)
  · -- `r` is least of what was left, and not equal to `y` as its item number occurs once
    have hy' : y ∈ rems m.lists m.cursors := hp2.mem_iff.mpr (List.mem_cons_of_mem _ hy)
    rcases List.mem_append.mp hx with hx | hx
    · exact hinv.below x hx y hy'
    · cases List.mem_singleton.mp hx
      have hry : r.index ≠ y.index := List.rel_of_pairwise_cons ((hp2.pairwise_iff fun h => Ne.symm h).mp hdr) hy
      exact (hleast y hy').resolve_left fun e => hry (congrArg R.index e).symm

/-- `n` rounds. -/
def mergeN : Nat → Merger → Option Merger
  | 0, m => some m
  | n + 1, m => (m.mergeStep).bind (mergeN n)

theorem mergeN_add (a b : Nat) : ∀ (m : Merger), mergeN (a + b) m = (mergeN a m).bind (mergeN b) := by
  induction a with
  | zero => intro m; rw [Nat.zero_add]; rfl
  | succ a ih =>
    intro m
    rw [Nat.add_right_comm]
    show (m.mergeStep).bind (mergeN (a + b)) = ((m.mergeStep).bind (mergeN a)).bind (mergeN b)
    cases m.mergeStep with
    | none => rfl
    | some m1 => exact ih m1

/-- `k` more rounds succeed while `k` results are left: they append some `s` of length `k`, move the cursors and
    keep `Inv`. -/
theorem mergeN_run (k : Nat) (m : Merger)
    (hs : ∀ l ∈ m.lists, l.Pairwise fun a b => compareRanks64 a b m.tac = true) (hd : DistinctIdx m.lists.flatten)
    (hinv : Inv m) (hk : m.merged.length + k ≤ m.lists.flatten.length) :
    ∃ s cur, mergeN k m = some { m with merged := m.merged ++ s, cursors := cur } ∧
      Inv { m with merged := m.merged ++ s, cursors := cur } ∧ s.length = k := by
  induction k generalizing m with
  | zero =>
    refine ⟨[], m.cursors, ?_, ?_, rfl⟩ <;> rw [List.append_nil]
    · rfl
    · exact hinv
  | succ k ih =>
    have hne : rems m.lists m.cursors ≠ [] := by
      rw [← hinv.count] at hk
      exact List.ne_nil_of_length_pos (Nat.lt_of_lt_of_le k.succ_pos (Nat.le_of_add_le_add_left hk))
    obtain ⟨r, cur1, hm1, hinv1⟩ := mergeStep_inv m hs hd hinv hne
    obtain ⟨s, cur, hm', hinv', hlen⟩ := ih { m with merged := m.merged ++ [r], cursors := cur1 } hs hd hinv1
      (by rw [List.length_append, List.length_singleton, Nat.add_assoc, Nat.add_comm 1]; exact hk)
    rw [List.append_assoc] at hm' hinv'
    refine ⟨r :: s, cur, ?_, hinv', congrArg (· + 1) hlen⟩
    show (m.mergeStep).bind (mergeN k) = _
    rw [hm1]
    exact hm'

end Fzf.Rank
