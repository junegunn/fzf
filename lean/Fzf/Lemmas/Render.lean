import Fzf.Model.Render
import Fzf.Lemmas.Str
import Fzf.Lemmas.List
/-
The renderer: `fit` in three shapes with its exact width; `put` and `rowOf` cell by cell; `ShowsAt row c txt`, by
which the C15 theorems read a counter off a row; the repaint over an old row; the heights of the row
blocks and one normal form of `fullRender` per layout.
-/
namespace Fzf.Render
open Fzf Fzf.Terminal

theorem fit_of_le {o : ROpts} {mw : Nat} {line : Str} {maxe : Nat} {hasPos : Bool}
    (h : line.length ≤ mw) : fit o mw line maxe hasPos = line :=
  if_pos h

/-- The three shapes of a line that does not fit. With `e` the ellipsis (cut to half the width) and
    `r` the room beside it, the line is cut on the right, on the left, or on both sides: the window
    then ends at a column `m` of the line that lies beyond the room. -/
theorem fit_cases (o : ROpts) (mw : Nat) (line : Str) (maxe : Nat) (hasPos : Bool) (h : mw < line.length) :
    ∃ e r, e = o.ellipsis.take (mw / 2) ∧ e.length + r = mw ∧ e.length ≤ r ∧
      (fit o mw line maxe hasPos = line.take r ++ e ∨
       fit o mw line maxe hasPos = e ++ lastN r line ∨
       ∃ m, r < m ∧ m ≤ line.length ∧
         fit o mw line maxe hasPos = e ++ lastN (r - e.length) (line.take m) ++ e) := by
  have he : (o.ellipsis.take (mw / 2)).length ≤ mw / 2 := List.length_take_le ..
  have her : (o.ellipsis.take (mw / 2)).length ≤ mw - (o.ellipsis.take (mw / 2)).length :=
    Nat.le_sub_of_add_le (Nat.le_trans (Nat.add_le_add he he) (Nat.two_mul _ ▸ Nat.mul_div_le mw 2))
  refine ⟨_, _, rfl, Nat.add_sub_cancel' (Nat.le_trans he (Nat.div_le_self ..)), her, ?_⟩
  fun_cases fit o mw line maxe hasPos
  -- the line fits
  case case1 h' => exact absurd h' (Nat.not_le_of_lt h)
  -- --keep-right and no match positions: the end of the line
  case case2 => exact .inr (.inl rfl)
  -- the match ends within the room: the start of the line
  case case3 => exact .inl rfl
  -- the match ends beyond the room: the window ends `hscrollOff` after the match, at `m`
  case case4 _ _ _ _ m _ _ hm line' =>
    dsimp only [line']
    split
    · refine .inr (.inr ⟨m, Nat.lt_of_not_le hm, Nat.min_le_right .., ?_⟩)
      rw [lastN_append_right _ _ _ her, List.append_assoc]
    · exact .inr (.inl rfl)
  -- --no-hscroll: the start of the line
  case case5 => exact .inl rfl

theorem fit_length (o : ROpts) (mw : Nat) (line : Str) (maxe : Nat) (hasPos : Bool) :
    (fit o mw line maxe hasPos).length = min mw line.length := by
  by_cases h : line.length ≤ mw
  · rw [fit_of_le h, Nat.min_eq_right h]
  · have hlt := Nat.lt_of_not_le h
    obtain ⟨e, r, _, hsum, her, hfit⟩ := fit_cases o mw line maxe hasPos hlt
    have hr : r ≤ line.length := Nat.le_trans (hsum ▸ Nat.le_add_left r e.length) (Nat.le_of_lt hlt)
    rw [Nat.min_eq_left (Nat.le_of_lt hlt)]
    obtain h | h | ⟨m, hrm, hm, h⟩ := hfit <;> rw [h, List.length_append]
    · rw [List.length_take_of_le hr, Nat.add_comm]; exact hsum
    · rw [lastN_length, Nat.min_eq_left hr]; exact hsum
    · rw [List.length_append, lastN_length, List.length_take_of_le hm,
        Nat.min_eq_left (Nat.le_trans (Nat.sub_le ..) (Nat.le_of_lt hrm)), Nat.add_assoc, Nat.sub_add_cancel her]
      exact hsum

theorem blanks_length {n : Nat} : (blanks n).length = n := List.length_replicate

theorem blanks_getElem? (n i : Nat) : (blanks n)[i]? = if i < n then some 32 else none :=
  List.getElem?_replicate

theorem rowOf_length {W : Nat} {cells : Str} : (rowOf W cells).length = W :=
  List.length_take_of_le (by rw [List.length_append, blanks_length]; exact Nat.le_add_left ..)

theorem rowOf_getElem? (W : Nat) (cells : Str) (i : Nat) :
    (rowOf W cells)[i]? = if i < W then (if i < cells.length then cells[i]? else some 32) else none := by
  unfold rowOf
  rw [List.getElem?_take, List.getElem?_append, blanks_getElem?]
  by_cases hi : i < W
  · rw [if_pos hi, if_pos hi, if_pos (Nat.lt_of_le_of_lt (Nat.sub_le ..) hi)]
  · rw [if_neg hi, if_neg hi]

theorem put_length (row : Str) (col : Nat) (seg : Str) : (put row col seg).length = row.length := by
  unfold put
  refine List.length_take_of_le ?_
  rw [List.length_append, List.length_append, List.length_take, List.length_drop]
  omega

theorem put_getElem?_left {row : Str} {col : Nat} {seg : Str} {i : Nat} (h : i < col) :
    (put row col seg)[i]? = row[i]? := by
  unfold put
  rw [List.getElem?_take]
  split
  · rw [List.append_assoc, List.getElem?_append_left (List.length_take ▸ Nat.lt_min.mpr ⟨h, ‹_›⟩),
      List.getElem?_take_of_lt h]
  · exact (List.getElem?_eq_none (Nat.le_of_not_lt ‹_›)).symm

theorem put_getElem?_seg (row : Str) (col : Nat) (seg : Str) {k : Nat} (hk : k < seg.length)
    (h : col + k < row.length) : (put row col seg)[col + k]? = seg[k]? := by
  unfold put
  have hc : (row.take col).length = col :=
    List.length_take_of_le (Nat.le_trans (Nat.le_add_right ..) (Nat.le_of_lt h))
  rw [List.getElem?_take_of_lt h, List.append_assoc, List.getElem?_append_right (hc.symm ▸ Nat.le_add_right col k), hc,
    Nat.add_sub_cancel_left, List.getElem?_append_left hk]

theorem put_getElem?_right {row : Str} {col : Nat} {seg : Str} {i : Nat} (h : col + seg.length ≤ i) :
    (put row col seg)[i]? = row[i]? := by
  unfold put
  rw [List.getElem?_take]
  split
  · have hc : (row.take col ++ seg).length = col + seg.length := by
      rw [List.length_append, List.length_take_of_le (by omega)]
    rw [List.getElem?_append_right (hc ▸ h), hc, List.getElem?_drop, Nat.add_sub_cancel' h]
  · exact (List.getElem?_eq_none (Nat.le_of_not_lt ‹_›)).symm

theorem take_put {row : Str} {col : Nat} {seg : Str} {n : Nat} (h : n ≤ col) :
    (put row col seg).take n = row.take n := by
  apply List.ext_getElem?
  intro i
  rw [List.getElem?_take, List.getElem?_take]
  split
  · exact put_getElem?_left (Nat.lt_of_lt_of_le ‹_› h)
  · rfl

/-- `row` holds `txt` from column `c` on — in the form `(row.drop c).take txt.length = txt` in which the C15
    statements say it. -/
def ShowsAt (row : Str) (c : Nat) (txt : Str) : Prop := (row.drop c).take txt.length = txt

/-- `put` and `rowOf` both build a row as `(a ++ seg ++ b).take W`: a segment that ends within `W` is shown
    right after `a`. -/
theorem showsAt_take_append {a txt b : Str} {c W : Nat} (ha : a.length = c) (h : c + txt.length ≤ W) :
    ShowsAt ((a ++ txt ++ b).take W) c txt := by
  rw [ShowsAt, List.drop_take, List.append_assoc, List.drop_left' ha, List.take_take,
    Nat.min_eq_left (Nat.le_sub_of_add_le' h), List.take_left]

theorem showsAt_put (row : Str) (c : Nat) (txt : Str) (h : c + txt.length ≤ row.length) :
    ShowsAt (put row c txt) c txt :=
  showsAt_take_append (List.length_take_of_le (Nat.le_trans (Nat.le_add_right ..) h)) h

theorem ShowsAt.put_after {row : Str} {c : Nat} {txt : Str} (hs : ShowsAt row c txt) {col : Nat} {seg : Str}
    (h : c + txt.length ≤ col) : ShowsAt (put row col seg) c txt := by
  rw [ShowsAt, List.take_drop, take_put h, ← List.take_drop]; exact hs

theorem showsAt_rowOf {W c : Nat} {p txt : Str} (hc : p.length = c) (h : c + txt.length ≤ W) :
    ShowsAt (rowOf W (p ++ txt)) c txt :=
  showsAt_take_append hc h

theorem trimMessage_of_le {msg : Str} {w : Nat} (h : msg.length ≤ w) : trimMessage msg w = msg :=
  if_pos h

/-- Repainting over an old row that is blank from column `cells.length + n` on, erasing `n` cells
    after the new ones, gives the row drawn from scratch. -/
theorem repaint_eq {W : Nat} {old cells : Str} {n : Nat} (hlen : old.length = W)
    (hblank : ∀ i, cells.length + n ≤ i → i < W → old[i]? = some 32) :
    put (put old 0 cells) cells.length (blanks n) = rowOf W cells := by
  apply List.ext_getElem?
  intro i
  rw [rowOf_getElem?]
  by_cases hi : i < W
  · rw [if_pos hi]
    by_cases hc : i < cells.length
    · -- a new cell
      have h := put_getElem?_seg old 0 cells hc (by rw [Nat.zero_add, hlen]; exact hi)
      rw [Nat.zero_add] at h
      rw [if_pos hc, put_getElem?_left hc, h]
    · rw [if_neg hc]
      by_cases hf : i < cells.length + n
      · -- an erased cell
        obtain ⟨k, rfl⟩ := Nat.exists_eq_add_of_le (Nat.le_of_not_lt hc)
        have hk : k < n := Nat.lt_of_add_lt_add_left hf
        rw [put_getElem?_seg _ _ _ (by rw [blanks_length]; exact hk) (by rw [put_length, hlen]; exact hi),
          blanks_getElem?, if_pos hk]
      · -- beyond both: the old row, blank there
        rw [put_getElem?_right (by rw [blanks_length]; exact Nat.le_of_not_lt hf),
          put_getElem?_right (by rw [Nat.zero_add]; exact Nat.le_of_not_lt hc)]
        exact hblank i (Nat.le_of_not_lt hf) hi
  · rw [if_neg hi]
    exact List.getElem?_eq_none (by rw [put_length, put_length, hlen]; exact Nat.le_of_not_lt hi)

theorem rowInv_blank (o : ROpts) : RowInv o (blanks o.W) ⟨0⟩ :=
  ⟨blanks_length, fun i _ hi => by rw [blanks_getElem?, if_pos hi]⟩

/-- A pointer or marker that is not shown leaves blanks of its width. -/
theorem length_ite_blanks (c : Bool) (s : Str) : (if c then s else blanks s.length).length = s.length := by
  split
  · rfl
  · exact blanks_length

theorem itemCells_length (o : ROpts) (r : RowIn) :
    (itemCells o r).length = ind o + (if o.W - (ind o + 1) > 0 then fit o (o.W - (ind o + 1)) r.text r.maxe r.hasPos else []).length := by
  unfold itemCells ind
  rw [List.length_append, List.length_append, length_ite_blanks, length_ite_blanks]

theorem listRows_length (o : ROpts) (v : View) : (listRows o v).length = maxItems o := by
  unfold listRows
  simp only [List.length_append, List.length_map, List.length_take, List.length_replicate]
  exact Nat.add_sub_cancel' (Nat.min_le_left ..)

theorem inputRows_length (o : ROpts) (v : View) : (inputRows o v).length = promptLines o := by
  unfold inputRows promptLines
  cases o.inputless <;> cases noSepLine o <;> rfl

theorem hdr0Rows_length (o : ROpts) : (hdr0Rows o).length = o.header0.length := by
  unfold hdr0Rows; split <;> simp

theorem logical_length (o : ROpts) (v : View) : (logical o v).length = promptLines o + o.header0.length := by
  unfold logical; rw [List.length_append, inputRows_length, hdr0Rows_length]

/-- The fixed block has the same height with and without --header-first. -/
theorem fixedBlock_length (o : ROpts) (v : View) :
    (fixedBlock o v).length = promptLines o + o.header0.length + o.headerItems.length := by
  unfold fixedBlock
  split
  · simp only [List.length_append, List.length_map, inputRows_length, hdr0Rows_length]; omega
  · simp only [List.length_append, List.length_map, logical_length]

/-- The rows `--layout=reverse-list` puts below the list (the expression has no name in the model). -/
theorem bottomBlock_length (o : ROpts) (v : View) :
    (if o.headerFirst then hdr0Rows o ++ inputRows o v else logical o v).length = promptLines o + o.header0.length := by
  split
  · simp only [List.length_append, inputRows_length, hdr0Rows_length]; omega
  · exact logical_length o v

/-- The fixed rows followed by the list rows — the stack the two other layouts draw top-down or bottom-up — fill
    the window when the fixed rows fit. -/
theorem stack_length (o : ROpts) (v : View) (hroom : promptLines o + o.header0.length + o.headerItems.length ≤ o.H) :
    (fixedBlock o v ++ listRows o v).length = o.H := by
  rw [List.length_append, fixedBlock_length, listRows_length, maxItems]
  exact Nat.add_sub_cancel' hroom

/-- What `fullRender` is in each layout once the fixed rows fit in the window: nothing is cut. -/
theorem fullRender_eq (o : ROpts) (v : View) (hroom : promptLines o + o.header0.length + o.headerItems.length ≤ o.H) :
    fullRender o v = match o.layout with
      | .reverse => fixedBlock o v ++ listRows o v
      | .default => (fixedBlock o v ++ listRows o v).reverse
      | .reverseList => o.headerItems.map (headerRow o) ++ listRows o v ++
          (if o.headerFirst then hdr0Rows o ++ inputRows o v else logical o v).reverse := by
  unfold fullRender
  rw [List.take_of_length_le (Nat.le_of_eq (stack_length o v hroom))]
  rfl

/-- A column that is moved right when there is room does not move left. -/
theorem le_ite_succ {a b : Nat} {c : Prop} [Decidable c] (h : a ≤ b) : a ≤ if c then b + 1 else b := by
  split
  · exact Nat.le_succ_of_le h
  · exact h

/-- In every info style the prompt row starts with the prompt and the query: whatever else is put
    on the row is put after them. -/
theorem promptRow_prefix (o : ROpts) (input : Str) (found total nsel : Nat)
    (hp : o.prompt.length ≤ o.W - 2) (hfit : o.prompt.length + input.length ≤ o.W) :
    (promptRow o input found total nsel).take (o.prompt.length + input.length) = o.prompt ++ input := by
  have base : (rowOf o.W (o.prompt ++ input)).take (o.prompt.length + input.length) = o.prompt ++ input := by
    rw [rowOf, List.take_take, Nat.min_eq_left hfit, List.take_left' List.length_append]
  unfold promptRow
  rw [fit_of_le hp]
  cases o.info <;> dsimp only
  -- default
  · exact base
  -- inline: prefix, counter and separator all start after column `pos`, one past the query
  · split
    · rw [take_put (Nat.le_add_right_of_le (Nat.le_add_right_of_le (Nat.le_add_right_of_le (Nat.le_succ _)))),
        take_put (Nat.le_add_right_of_le (Nat.le_succ _)), take_put (Nat.le_succ _)]
      exact base
    · rw [take_put (Nat.le_add_right_of_le (Nat.le_succ _)), take_put (Nat.le_succ _)]
      exact base
  -- hidden
  · exact base
  -- inlineRight: blanks from `pos` on, the counter at `p3 ≥ pos`
  · rw [take_put (le_ite_succ (le_ite_succ (Nat.le_trans (Nat.le_succ _) (Nat.le_max_left ..)))),
      take_put (Nat.le_succ _)]
    exact base
  -- right
  · exact base

end Fzf.Render
