import Fzf.Lemmas.Score
import Fzf.Lemmas.Prefilter
/-
ExactMatchNaive / ExactMatchBoundary: the scanning loop never indexes out of range, what it
reports is an occurrence of the term, and (ExactMatchNaive) it reports one whenever one exists.
The loop is analysed in scan coordinates (`MAt`, `OccScan`: positions count from the end when
searching backward); `occScan_iff` and `exRange_scan` translate to text positions, once for the
reported range and once for completeness.
-/
namespace Fzf.Algo

/-- The text character at scan position `j` agrees with the pattern character at scan position
    `k` (scan positions run from the end when searching backward). -/
def MAt (cfg : Cfg) (cs norm fwd : Bool) (t p : Text) (j k : Nat) : Prop :=
  foldRune cfg cs norm (t.getD (indexAt j t.size fwd) 0) = p.getD (indexAt k p.size fwd) 0

theorem bonusAt_eq (cfg : Cfg) (t : Text) {idx : Nat} (h : idx < t.size) :
    bonusAt cfg t idx = .ok (if idx = 0 then cfg.sch.bWhite
      else bonusFor cfg.sch (charClassOf cfg (t.getD (idx - 1) 0)) (charClassOf cfg (t.getD idx 0))) := by
  unfold bonusAt
  by_cases h0 : idx = 0
  · rw [if_pos h0, if_pos h0]; rfl
  · rw [if_neg h0, if_neg h0, get_ok t (idx - 1) (by omega), get_ok t idx h]; rfl

theorem bonusAt_nn (cfg : Cfg) (hs : 0 ≤ cfg.sch.bWhite ∧ 0 ≤ cfg.sch.bDelim) (t : Text) {idx : Nat} (h : idx < t.size)
    (b : Int) (hb : bonusAt cfg t idx = .ok b) : 0 ≤ b := by
  obtain rfl := Except.ok.inj ((bonusAt_eq cfg t h).symm.trans hb)
  by_cases h0 : idx = 0
  · rw [if_pos h0]; exact hs.1
  · rw [if_neg h0]
    exact bonusFor_ind (P := (0 ≤ ·)) cfg.sch hs.1 hs.2 (by decide) (by decide) (by decide) _ _

theorem exNbr_returns (cfg : Cfg) (t : Text) {cond : Bool} {j : Nat} (hj : cond = false → j < t.size) :
    Post (fun _ => True) (exNbr cfg t cond j) := by
  simp only [exNbr, post_ite, post_pure, post_get_bind, and_true, implies_true, true_and, Bool.not_eq_true]
  exact hj

/-- The verdict is true only on agreeing characters (and, without boundary conditions, exactly then); the bonus
    is the old one or `bonusAt` of the text position. -/
theorem exDecide_spec (cfg : Cfg) (cs norm fwd boundary : Bool) (t p : Text) (st : EX)
    (hi : st.index < t.size) (hp : st.pidx < p.size) :
    Post (fun (ok, bonus) => (ok = true → MAt cfg cs norm fwd t p st.index st.pidx) ∧
      (boundary = false → MAt cfg cs norm fwd t p st.index st.pidx → ok = true) ∧
      (bonus = st.bonus ∨ bonusAt cfg t (indexAt st.index t.size fwd) = .ok bonus))
    (exDecide cfg cs norm fwd boundary t p st) := by
  have h1 := indexAt_lt fwd hi
  have h2 := indexAt_lt fwd hp
  simp only [exDecide, post_get_bind, post_ite, post_pure, h1, h2, true_and, beq_iff_eq, reduceCtorEq, false_implies,
    true_or, and_true]
  -- the characters agree (the rest of the function runs), or they differ (verdict `false`, bonus unchanged)
  refine ⟨fun heq => ?_, fun hne _ e => hne e.symm⟩
  have hbonus : Post (fun b => b = st.bonus ∨ bonusAt cfg t (indexAt st.index t.size fwd) = .ok b)
      (exBonus cfg t (indexAt st.pidx p.size fwd) (indexAt st.index t.size fwd) st.bonus) := by
    simp only [exBonus, post_ite, post_pure, true_or, implies_true, and_true]
    exact fun _ => ⟨_, bonusAt_eq cfg t h1, Or.inr (bonusAt_eq cfg t h1)⟩
  refine post_bind hbonus fun b hb => ?_
  cases boundary with
  | false => exact post_pure.mpr ⟨fun _ => heq.symm, fun _ _ => rfl, hb⟩
  | true =>
    refine post_bind (Q := fun _ => True) ?_ fun o2 _ => post_bind (Q := fun _ => True) ?_ fun o3 _ =>
      post_pure.mpr ⟨fun _ => heq.symm, fun h => (by cases h), hb⟩
    · unfold exLeft
      split
      · exact exNbr_returns cfg t (by intro h; simp at h; omega)
      · exact post_pure.mpr trivial
    · unfold exRight
      split
      · exact exNbr_returns cfg t (by intro h; simp at h; omega)
      · exact post_pure.mpr trivial

/-- The term occurs at scan position `s`. -/
def OccScan (cfg : Cfg) (cs norm fwd : Bool) (t p : Text) (s : Nat) : Prop :=
  ∀ k, k < p.size → MAt cfg cs norm fwd t p (s + k) k

/-- What the scan knows at the top of an iteration. -/
structure ExInv (cfg : Cfg) (cs norm fwd : Bool) (t p : Text) (st : EX) : Prop where
  /-- unless it has stopped: the attempt started at some `a`, is shorter than the term, and
      agrees with the term so far -/
  cur : st.done = false → st.pidx < p.size ∧
    ∃ a, st.index = a + st.pidx ∧ ∀ k, k < st.pidx → MAt cfg cs norm fwd t p (a + k) k
  /-- the recorded best position ends a complete occurrence, which starts at scan position `a` -/
  best : ∀ b, st.bestPos = some b → ∃ a, b + 1 = a + p.size ∧ b < t.size ∧ OccScan cfg cs norm fwd t p a

/-- What the scan has ruled out (ExactMatchNaive: no boundary conditions). -/
structure CInv (cfg : Cfg) (cs norm fwd : Bool) (t p : Text) (st : EX) : Prop where
  bonus_nn : 0 ≤ st.bonus
  none_bb : st.bestPos = none → st.bestBonus = -1
  done_some : st.done = true → st.bestPos ≠ none
  covered : st.bestPos = none → ∀ s, s + p.size ≤ t.size → s < st.index - st.pidx → ¬ OccScan cfg cs norm fwd t p s

theorem exInv_init (cfg : Cfg) (cs norm fwd : Bool) (t p : Text) (hm : 0 < p.size) : ExInv cfg cs norm fwd t p {} :=
  { cur := fun _ => ⟨hm, 0, rfl, fun k hk => absurd hk (Nat.not_lt_zero k)⟩, best := nofun }

theorem cInv_init (cfg : Cfg) (cs norm fwd : Bool) (t p : Text) : CInv cfg cs norm fwd t p {} :=
  { bonus_nn := Int.le_refl 0, none_bb := fun _ => rfl, done_some := nofun,
    covered := fun _ s _ hs => absurd hs (Nat.not_lt_zero s) }

/-- Progress measure: start of the current attempt, then its length. -/
def exPhi (m : Nat) (st : EX) : Nat := (st.index - st.pidx) * (m + 1) + st.pidx

/-- Both ways the scan moves on increase `exPhi`: one more character of the attempt at `a`, or a
    fresh attempt at `a + 1`. -/
theorem exPhi_lt {m a k : Nat} {st' : EX} (hk : k < m)
    (h : st'.index - st'.pidx = a ∧ st'.pidx = k + 1 ∨ st'.index - st'.pidx = a + 1 ∧ st'.pidx = 0) :
    a * (m + 1) + k < exPhi m st' := by
  rcases h with ⟨h1, h2⟩ | ⟨h1, h2⟩
  · rw [exPhi, h1, h2]; omega
  · rw [exPhi, h1, h2, Nat.add_mul]; omega

/-- **The transition keeps what the scan knows, and an unfinished scan has made progress** — one analysis of its
    four outcomes (restart after a mismatch, advance, stop at a boundary-bonus occurrence, record an occurrence
    and restart). When the verdict is exact (ExactMatchNaive) and bonuses are not negative, it also keeps what
    the scan has ruled out. -/
theorem exNext_inv (cfg : Cfg) (cs norm fwd : Bool) (t p : Text) (st : EX) (ok : Bool) (bonus : Int)
    (hinv : ExInv cfg cs norm fwd t p st) (hd : st.done = false) (hi : st.index < t.size)
    (hok : ok = true → MAt cfg cs norm fwd t p st.index st.pidx) :
    ExInv cfg cs norm fwd t p (exNext p.size st ok bonus) ∧
    ((exNext p.size st ok bonus).done = false → exPhi p.size st < exPhi p.size (exNext p.size st ok bonus)) ∧
    ((MAt cfg cs norm fwd t p st.index st.pidx → ok = true) → 0 ≤ bonus → CInv cfg cs norm fwd t p st →
      CInv cfg cs norm fwd t p (exNext p.size st ok bonus)) := by
  obtain ⟨hlt, a, ha, hpart⟩ := hinv.cur hd
  -- with `index = a + pidx` every position the transition computes is `a`, `a + 1` or `a + (pidx + 1)`
  have hsub : st.index - st.pidx = a := by rw [ha, Nat.add_sub_cancel]
  -- a fresh attempt (one character further on) knows nothing yet
  have hfresh : ∀ i, 0 < p.size ∧ ∃ a', i = a' + 0 ∧ ∀ k, k < 0 → MAt cfg cs norm fwd t p (a' + k) k :=
    fun i => ⟨Nat.zero_lt_of_lt hlt, i, rfl, fun k hk => absurd hk (Nat.not_lt_zero k)⟩
  have hphi : exPhi p.size st = a * (p.size + 1) + st.pidx := by rw [exPhi, hsub]
  have hext : ok = true → ∀ k, k < st.pidx + 1 → MAt cfg cs norm fwd t p (a + k) k :=
    fun h => Nat.forall_lt_succ_right.mpr ⟨hpart, ha ▸ hok h⟩
  -- what a complete attempt leaves as best position `bp`: it ends an occurrence; and it is always some position,
  -- since no best position yet means best bonus -1 < 0 ≤ bonus
  have hrec : ∀ {bp bb}, (if bonus > st.bestBonus then (some st.index, bonus) else (st.bestPos, st.bestBonus)) = (bp, bb) →
      ok = true → (st.pidx + 1 == p.size) = true →
      (∀ b, bp = some b → ∃ a, b + 1 = a + p.size ∧ b < t.size ∧ OccScan cfg cs norm fwd t p a) ∧
      (0 ≤ bonus → CInv cfg cs norm fwd t p st → bp ≠ none) := by
    intro bp bb hbp hv hfull
    have hfull' : st.pidx + 1 = p.size := beq_iff_eq.mp hfull
    split at hbp <;> cases hbp
    · refine ⟨fun b hb => ?_, fun _ _ => Option.some_ne_none _⟩
      cases hb
      exact ⟨a, by rw [ha, ← hfull', Nat.add_assoc], hi, fun k hk => hext hv k (hfull'.symm ▸ hk)⟩
    · next hgt => exact ⟨hinv.best, fun hbn hc hn => hgt (by rw [hc.none_bb hn]; exact Int.lt_of_lt_of_le (by decide) hbn)⟩
  -- every outcome below: `ExInv`, then progress, then `CInv`
  fun_cases exNext p.size st ok bonus
  case case1 hv _ hfull _ _ hbp _ => -- the attempt at `a` is complete, with a boundary bonus: the scan ends
    obtain ⟨hb1, hb2⟩ := hrec hbp hv hfull
    refine ⟨{ cur := nofun, best := hb1 }, nofun, fun _ hbn hc => ?_⟩
    have hr := hb2 hbn hc
    exact { bonus_nn := hbn, none_bb := fun h => absurd h hr, done_some := fun _ => hr, covered := fun h => absurd h hr }
  case case2 hv _ hfull _ _ hbp _ => -- complete, no boundary bonus: it goes on from `a + 1`
    obtain ⟨hb1, hb2⟩ := hrec hbp hv hfull
    refine ⟨{ cur := fun _ => hfresh _, best := hb1 }, fun _ => ?_, fun _ hbn hc => ?_⟩
    · rw [hphi]; exact exPhi_lt hlt (Or.inr ⟨congrArg (· + 1) hsub, rfl⟩)
    · have hr := hb2 hbn hc
      exact { bonus_nn := Int.le_refl 0, none_bb := fun h => absurd h hr, done_some := nofun, covered := fun h => absurd h hr }
  case case3 hv _ hfull => -- advance: the attempt at `a` is one character longer
    have hfull' : st.pidx + 1 ≠ p.size := mt beq_iff_eq.mpr hfull
    have e : st.index + 1 - (st.pidx + 1) = a := by rw [ha, Nat.add_assoc, Nat.add_sub_cancel]
    refine ⟨{ cur := fun _ => ⟨Nat.lt_of_le_of_ne hlt hfull', a, congrArg (· + 1) ha, hext hv⟩, best := hinv.best },
      fun _ => ?_, fun _ hbn hc => ?_⟩
    · rw [hphi]; exact exPhi_lt hlt (Or.inl ⟨e, rfl⟩)
    · exact { bonus_nn := hbn, none_bb := hc.none_bb, done_some := fun h => absurd (hd ▸ h) Bool.false_ne_true,
              covered := fun hb s hs hlt' => hc.covered hb s hs (hsub.symm ▸ e ▸ hlt') }
  case case4 hv => -- mismatch: restart at `a + 1`
    refine ⟨{ cur := fun _ => hfresh _, best := hinv.best }, fun _ => ?_, fun hno _ hc => ?_⟩
    · rw [hphi]; exact exPhi_lt hlt (Or.inr ⟨congrArg (· + 1) hsub, rfl⟩)
    · refine { bonus_nn := Int.le_refl 0, none_bb := hc.none_bb, done_some := fun h => absurd (hd ▸ h) Bool.false_ne_true,
               covered := ?_ }
      -- the attempt that just failed is ruled out as well
      intro hb s hs hlt' hocc
      by_cases hs0 : s < a
      · exact hc.covered hb s hs (hsub.symm ▸ hs0) hocc
      · obtain rfl : s = a := Nat.le_antisymm (Nat.le_of_lt_succ (hsub ▸ hlt' : s < a + 1)) (Nat.le_of_not_lt hs0)
        exact hv (hno (ha ▸ hocc st.pidx hlt))

theorem exPhi_bound {n m : Nat} {st : EX} (hk : st.pidx < m) (h : n * (m + 1) ≤ exPhi m st) : st.index ≥ n := by
  -- (index - pidx) * (m+1) + pidx ≥ n * (m+1) with pidx < m+1 forces index - pidx ≥ n
  by_cases hcon : st.index - st.pidx < n
  · have h1 : (st.index - st.pidx + 1) * (m + 1) ≤ n * (m + 1) := Nat.mul_le_mul_right _ hcon
    rw [Nat.add_mul] at h1
    unfold exPhi at h
    omega
  · omega

/-- **The scanning loop returns** and keeps what the scan knows. `exPhi` grows with every iteration
    and cannot reach `t.size * (p.size + 1)` while `index < t.size`, so with that much fuel the loop
    ends by its own test. (The bound is asked only of a scan that has not stopped: the step that stops it need
    not pay for its fuel.) For ExactMatchNaive without a negative bonus it also keeps what the scan has ruled
    out; the two together are what completeness needs. -/
theorem exLoop_inv (cfg : Cfg) (cs norm fwd boundary : Bool) (t p : Text) (fuel : Nat) (st : EX)
    (hinv : ExInv cfg cs norm fwd t p st) :
    Post (fun st' => ExInv cfg cs norm fwd t p st' ∧
      ((st.done = false → t.size * (p.size + 1) ≤ exPhi p.size st + fuel) → st'.done = false → st'.index ≥ t.size) ∧
      (boundary = false → (0 ≤ cfg.sch.bWhite ∧ 0 ≤ cfg.sch.bDelim) → CInv cfg cs norm fwd t p st →
        CInv cfg cs norm fwd t p st'))
      (exLoop cfg cs norm fwd boundary t p fuel st) := by
  induction fuel generalizing st with
  | zero => exact post_pure.mpr ⟨hinv, fun hf hd => exPhi_bound (hinv.cur hd).1 (hf hd), fun _ _ hc => hc⟩
  | succ fuel ih =>
    rw [exLoop, post_ite]
    refine ⟨fun hstop => post_pure.mpr ⟨hinv, fun _ hd => by simpa [hd] using hstop, fun _ _ hc => hc⟩, fun hstop => ?_⟩
    obtain ⟨hd, hi⟩ : st.done = false ∧ st.index < t.size := by simpa using hstop
    rw [exStep, bind_assoc]
    refine post_bind (exDecide_spec cfg cs norm fwd boundary t p st hi (hinv.cur hd).1) fun ⟨ok, bonus⟩ ⟨hok, hexact, hbon⟩ => ?_
    obtain ⟨hinv1, hphi, hc1⟩ := exNext_inv cfg cs norm fwd t p st ok bonus hinv hd hi hok
    refine (ih _ hinv1).mono fun st' ⟨hinv', hend, hcomp⟩ => ⟨hinv', fun hf => hend fun hd1 => ?_, fun hb hs hc => hcomp hb hs ?_⟩
    · -- the iteration used one unit of fuel and raised `exPhi` by at least one
      have := hphi hd1
      have := hf hd
      omega
    · have hbn : 0 ≤ bonus := hbon.elim (fun e => e ▸ hc.bonus_nn) (bonusAt_nn cfg hs t (indexAt_lt fwd hi) bonus)
      exact hc1 (hexact hb) hbn hc

theorem underscoreAt_returns (t : Text) {cond : Bool} {j : Nat} (h : cond = true → j < t.size) :
    Post (fun _ => True) (underscoreAt t cond j) := by
  simp only [underscoreAt, post_ite, post_pure, post_get_bind, and_true, implies_true]
  exact h

theorem exBoundaryScore_returns (cfg : Cfg) (t : Text) (bonus : Int) {sidx eidx : Nat} (m : Nat) (hs : sidx ≤ t.size) :
    Post (fun _ => True) (exBoundaryScore cfg t bonus sidx eidx m) :=
  post_bind (underscoreAt_returns t (by intro h; simp at h; omega)) fun _ _ =>
    post_bind (underscoreAt_returns t (by intro h; simpa using h)) fun _ _ => post_pure.mpr trivial

theorem forall_lt_rev {m : Nat} {Q : Nat → Prop} : (∀ k, k < m → Q (m - 1 - k)) ↔ ∀ i, i < m → Q i :=
  ⟨fun h i hi => by
    have := h (m - 1 - i) (by omega)
    rwa [show m - 1 - (m - 1 - i) = i by omega] at this,
   fun h k hk => h _ (by omega)⟩

/-- Scan coordinates and text coordinates: the term occurs at text position `s` exactly when it
    occurs at the scan position of `s` (counted from the end when searching backward). -/
theorem occScan_iff (cfg : Cfg) (cs norm fwd : Bool) (t p : Text) (s : Nat) (hfit : s + p.size ≤ t.size) :
    OccScan cfg cs norm fwd t p (if fwd then s else t.size - s - p.size) ↔
      ∀ i, i < p.size → foldRune cfg cs norm (t.getD (s + i) 0) = p.getD i 0 := by
  cases fwd with
  | true => exact Iff.rfl
  | false =>
    -- position `k` of the backward scan is position `m - 1 - k` of the occurrence
    rw [← forall_lt_rev (Q := fun i => foldRune cfg cs norm (t.getD (s + i) 0) = p.getD i 0)]
    refine forall_congr' fun k => imp_congr_right fun hk => ?_
    simp only [MAt, indexAt, Bool.false_eq_true, if_false]
    rw [show t.size - (t.size - s - p.size + k) - 1 = s + (p.size - 1 - k) by omega,
      Nat.sub_right_comm p.size k 1]

/-- The reported range of an occurrence that starts at scan position `a` and ends at `b`: `[s, s + m)`, where
    `a` is the scan position of `s`. -/
theorem exRange_scan (fwd : Bool) {n m a b : Nat} (h1 : b + 1 = a + m) (h2 : b < n) :
    ∃ s, exRange fwd n m b = (s, s + m) ∧ s + m ≤ n ∧ (if fwd then s else n - s - m) = a := by
  have h3 : a + m ≤ n := h1 ▸ h2
  unfold exRange
  rw [h1, Nat.add_sub_cancel]
  cases fwd
  · have : n - a = n - (a + m) + m ∧ n - (a + m) + m ≤ n ∧ n - (n - (a + m)) - m = a := by omega
    exact ⟨n - (a + m), congrArg (Prod.mk _) this.1, this.2⟩
  · exact ⟨a, rfl, h3, rfl⟩

theorem exFinish_spec (cfg : Cfg) (cs norm fwd boundary : Bool) (t p : Text) (st : EX)
    (hinv : ExInv cfg cs norm fwd t p st) :
    Post (fun r : Res => (0 ≤ r.start ↔ st.bestPos ≠ none) ∧
      (0 ≤ r.start → ∃ s : Nat, r.start = s ∧ r.stop = s + p.size ∧ s + p.size ≤ t.size ∧
        (∀ i, i < p.size → foldRune cfg cs norm (t.getD (s + i) 0) = p.getD i 0) ∧
        (boundary = false → r.score = occScore cfg t s p.size)))
      (exFinish cfg cs norm fwd boundary t p st) := by
  unfold exFinish
  cases hb : st.bestPos with
  | none => exact post_pure.mpr ⟨iff_of_false Res.none_start (not_not_intro rfl), fun h => absurd h Res.none_start⟩
  | some b =>
    obtain ⟨a, g1, g2, g3⟩ := hinv.best b hb
    obtain ⟨s, hr, hfit, hs⟩ := exRange_scan fwd g1 g2
    have hocc := (occScan_iff cfg cs norm fwd t p s hfit).mp (hs ▸ g3)
    have hiff : 0 ≤ (s : Int) ↔ some b ≠ none := iff_of_true (Int.natCast_nonneg s) (Option.some_ne_none b)
    dsimp only  -- reduces the `match` on `some b`
    rw [hr]
    cases boundary with
    | true =>
      refine post_bind (exBoundaryScore_returns cfg t st.bonus p.size (by omega)) fun v _ => post_pure.mpr ?_
      exact ⟨hiff, fun _ => ⟨s, rfl, Int.natCast_add _ _, hfit, hocc, fun h => (by cases h)⟩⟩
    | false =>
      rw [calculateScore_occ cfg cs norm t p s hfit hocc]
      exact post_pure.mpr ⟨hiff, fun _ => ⟨s, rfl, Int.natCast_add _ _, hfit, hocc, fun _ => rfl⟩⟩

theorem exactMatchNaive_cases (cfg : Cfg) (cs norm fwd boundary : Bool) (t : Text) (isBytes : Bool) (p : Text)
    (hm : 0 < p.size) :
    (exactMatchNaive cfg cs norm fwd boundary t isBytes p = .ok Res.none ∧
      (t.size < p.size ∨ asciiFuzzyIndex t isBytes p cs = none)) ∨
    exactMatchNaive cfg cs norm fwd boundary t isBytes p =
      exLoop cfg cs norm fwd boundary t p (t.size * (p.size + 1) + 1) {} >>= exFinish cfg cs norm fwd boundary t p := by
  unfold exactMatchNaive
  rw [size_beq_zero hm, if_neg Bool.false_ne_true]
  by_cases h1 : t.size < p.size
  · rw [if_pos h1]; exact Or.inl ⟨rfl, Or.inl h1⟩
  · rw [if_neg h1]
    by_cases h2 : (asciiFuzzyIndex t isBytes p cs).isNone = true
    · rw [if_pos h2]; exact Or.inl ⟨rfl, Or.inr (Option.isNone_iff_eq_none.mp h2)⟩
    · rw [if_neg h2]; exact Or.inr rfl

/-- **ExactMatchNaive / ExactMatchBoundary return for every non-empty term, and what they report
    is an occurrence of the term**, which ExactMatchNaive scores as that occurrence. -/
theorem exactMatchNaive_spec (cfg : Cfg) (cs norm fwd boundary : Bool) (t : Text) (isBytes : Bool) (p : Text)
    (hm : 0 < p.size) :
    Post (fun r : Res => 0 ≤ r.start → ∃ s : Nat, r.start = s ∧ r.stop = s + p.size ∧ s + p.size ≤ t.size ∧
        (∀ i, i < p.size → foldRune cfg cs norm (t.getD (s + i) 0) = p.getD i 0) ∧
        (boundary = false → r.score = occScore cfg t s p.size))
      (exactMatchNaive cfg cs norm fwd boundary t isBytes p) := by
  rcases exactMatchNaive_cases cfg cs norm fwd boundary t isBytes p hm with ⟨h, _⟩ | h
  · exact h ▸ post_ok.mpr fun h0 => absurd h0 Res.none_start
  · exact h ▸ post_bind (exLoop_inv cfg cs norm fwd boundary t p _ {} (exInv_init cfg cs norm fwd t p hm)) fun st hst =>
      (exFinish_spec cfg cs norm fwd boundary t p st hst.1).mono fun _ h => h.2

theorem occ_sublist (f : Nat → Nat) (t p : Text) (s : Nat) (hfit : s + p.size ≤ t.size)
    (hocc : ∀ i, i < p.size → f (t.getD (s + i) 0) = p.getD i 0) :
    List.Sublist p.toList (t.toList.map f) := by
  have : p.toList = ((t.toList.map f).drop s).take p.size := by
    apply List.ext_getElem
    · simp; omega
    · intro i h1 h2
      simp only [List.getElem_take, List.getElem_drop, List.getElem_map, Array.getElem_toList]
      have hi : i < p.size := by simpa using h1
      have := hocc i hi
      have hsi : s + i < t.size := by omega
      simp only [Array.getD, hsi, hi, dite_true] at this
      exact this.symm
  rw [this]
  exact (List.take_sublist _ _).trans (List.drop_sublist _ _)

/-- **ExactMatchNaive never misses an occurrence**, in any scheme without a negative bonus. A
    negative bonus could lose to the initial best bonus -1 and leave a complete occurrence unrecorded. -/
theorem exactMatchNaive_complete (cfg : Cfg) (hs : 0 ≤ cfg.sch.bWhite ∧ 0 ≤ cfg.sch.bDelim)
    (hnorm : ∀ c, c < 128 → cfg.norm c = c)
    (cs norm fwd : Bool) (t : Text) (isBytes : Bool) (p : Text)
    (hascii : isBytes = true → ∀ c ∈ t.toList, c < 128) (hm : 0 < p.size) (r : Res)
    (hr : exactMatchNaive cfg cs norm fwd false t isBytes p = .ok r) (hneg : r.start < 0) :
    ¬ ∃ s, s + p.size ≤ t.size ∧ ∀ i, i < p.size → foldRune cfg cs norm (t.getD (s + i) 0) = p.getD i 0 := by
  rintro ⟨s, hfit, hocc⟩
  rcases exactMatchNaive_cases cfg cs norm fwd false t isBytes p hm with ⟨_, h | h⟩ | h
  · exact Nat.not_le_of_lt h (Nat.le_trans (Nat.le_add_left _ _) hfit)
  · exact asciiFuzzyIndex_none_sound cfg cs norm t p isBytes hascii hnorm h (occ_sublist _ t p s hfit hocc)
  · -- the loop ends with no best position, so not stopped, so at the end of the text: every start is ruled out
    obtain ⟨st, hl, hinv, hend, hcomp⟩ := exLoop_inv cfg cs norm fwd false t p (t.size * (p.size + 1) + 1) {}
      (exInv_init cfg cs norm fwd t p hm)
    have hc := hcomp rfl hs (cInv_init cfg cs norm fwd t p)
    have hb : st.bestPos = none := Decidable.by_contra fun hb =>
      Int.not_le.mpr hneg (((exFinish_spec cfg cs norm fwd false t p st hinv).elim (by rw [← hr, h, hl]; rfl)).1.mpr hb)
    have hd : st.done = false := Bool.eq_false_iff.mpr fun h => hc.done_some h hb
    have hidx : st.index ≥ t.size := hend (fun _ => Nat.le_trans (Nat.le_succ _) (Nat.le_add_left _ _)) hd
    have hlt := (hinv.cur hd).1
    have hfit' : (if fwd then s else t.size - s - p.size) + p.size ≤ t.size := by split <;> omega
    exact hc.covered hb _ hfit' (by omega) ((occScan_iff cfg cs norm fwd t p s hfit).mpr hocc)

/-- **ExactMatchNaive decides**: it returns, and reports a match exactly when the term occurs in the folded
    line. -/
theorem exactMatchNaive_decides (cfg : Cfg) (hs : 0 ≤ cfg.sch.bWhite ∧ 0 ≤ cfg.sch.bDelim)
    (hnorm : ∀ c, c < 128 → cfg.norm c = c) (cs norm fwd : Bool) (t : Text) (isBytes : Bool) (p : Text)
    (hascii : isBytes = true → ∀ c ∈ t.toList, c < 128) (hm : 0 < p.size) :
    ∃ r, exactMatchNaive cfg cs norm fwd false t isBytes p = .ok r ∧
      (0 ≤ r.start ↔ ∃ s, s + p.size ≤ t.size ∧ ∀ i, i < p.size → foldRune cfg cs norm (t.getD (s + i) 0) = p.getD i 0) := by
  obtain ⟨r, hr, hsound⟩ := exactMatchNaive_spec cfg cs norm fwd false t isBytes p hm
  refine ⟨r, hr, fun hs0 => ?_, fun hocc => Int.not_lt.mp fun hneg =>
    exactMatchNaive_complete cfg hs hnorm cs norm fwd t isBytes p hascii hm r hr hneg hocc⟩
  obtain ⟨s, _, _, hfit, hocc, _⟩ := hsound hs0
  exact ⟨s, hfit, hocc⟩

end Fzf.Algo
