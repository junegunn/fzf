import Fzf.Model.Preview
/-
The previewer's transition system: what single transitions do to a running command, and the invariant
`Inv` of all reachable states from which the C20 theorems are read off.
-/
namespace Fzf.Preview
open Fzf

theorem quiescent_iff {s : S} : quiescent s = true ↔ s.box = none ∧ s.run = none := by
  simp [quiescent]

theorem step_poll (ends : Nat → Bool) {s : S} {p : Running} (hr : s.run = some p) (hw : p.watcher = true)
    (hb : s.box.isSome = true) (hk : p.killed = false) :
    step ends s .poll = some { s with run := some { p with killed := true } } := by
  simp [step, hr, hw, hb, hk]

/-- Whether or not the watcher was already receiving, after `ready` it is. -/
theorem step_ready_getD (ends : Nat → Bool) {s : S} {p : Running} (hr : s.run = some p) :
    (step ends s .ready).getD s = { s with run := some { p with watcher := true } } := by
  obtain ⟨_, _, w, _⟩ := p
  obtain ⟨_, _, _, _, _, _, _⟩ := s
  cases hr; cases w <;> rfl

/-- While a command that never ends by itself runs unkilled, only a refresh, the watcher's poll or
    the end of the session is enabled (`ready` too until the watcher is receiving). -/
theorem step_stuck (ends : Nat → Bool) {s : S} {p : Running} (hr : s.run = some p) (hw : p.watcher = true)
    (hk : p.killed = false) (he : ends p.req = false) {l : Label}
    (hl : l ≠ .refresh ∧ l ≠ .exit ∧ l ≠ .poll) : step ends s l = none := by
  cases l with
  | refresh | exit | poll => simp at hl
  | take | ready | finish | die => simp [step, hr, hw, hk, he]

theorem run_stuck (ends : Nat → Bool) (s : S) (ls : List Label) (h : ∀ l ∈ ls, step ends s l = none) :
    run ends s ls = s :=
  List.foldlRecOn (motive := (· = s)) ls _ rfl fun _ ht l hl => by rw [ht, h l hl]; rfl

/-- What holds in every reachable state. The box holds only the latest request; the log `started` is
    increasing, stays below a pending request and has `version` entries; a running command is the last
    one logged. While the session goes on: a killed command has a newer request waiting; once nothing
    is pending the latest request is the last one logged (`caught_up`); and, once its command has ended
    too, its output is what is shown (`shown_latest`). -/
structure Inv (s : S) : Prop where
  box_latest : ∀ r, s.box = some r → r = s.enq
  caught_up : s.quit = false → s.box = none → 0 < s.enq → s.started.getLast? = some s.enq
  run_last : ∀ p, s.run = some p → s.started.getLast? = some p.req ∧ p.version = s.version
  killed_pending : s.quit = false → ∀ p, s.run = some p → p.killed = true → s.box.isSome = true
  shown_latest : s.quit = false → s.run = none → s.box = none → 0 < s.enq → s.shown = some (s.version, s.enq)
  started_le : ∀ x ∈ s.started, x ≤ s.enq
  started_lt_box : ∀ r, s.box = some r → ∀ x ∈ s.started, x < r
  started_sorted : s.started.Pairwise (· < ·)
  version_eq : s.version = s.started.length

theorem init_inv : Inv {} := by
  constructor <;> simp

/-- Sending the kill token (refresh, exit) changes neither request nor version of the running command. -/
theorem kill_run_last {s : S} (h : Inv s) (p : Running)
    (hp : (s.run.map fun p => if p.watcher then { p with killed := true } else p) = some p) :
    s.started.getLast? = some p.req ∧ p.version = s.version := by
  obtain ⟨p0, hp0, rfl⟩ := Option.map_eq_some_iff.1 hp
  have := h.run_last p0 hp0
  split <;> exact this

theorem step_inv (ends : Nat → Bool) {s s' : S} {l : Label} (h : Inv s) (hs : step ends s l = some s') : Inv s' := by
  -- the seven enabled transitions, in the order of `Label`; every other branch of `step` gives `none`
  revert hs
  fun_cases step ends s l
  case case2 hq _ =>  -- refresh
    rintro ⟨⟩
    exact { h with
      box_latest := by rintro _ ⟨⟩; rfl
      caught_up := by rintro _ ⟨⟩
      run_last := kill_run_last h
      killed_pending := fun _ _ _ _ => rfl
      shown_latest := by rintro _ _ ⟨⟩
      started_le := fun x hx => Nat.le_succ_of_le (h.started_le x hx)
      started_lt_box := by rintro _ ⟨⟩ x hx; exact Nat.lt_succ_of_le (h.started_le x hx) }
  case case4 r hbox hrun hq =>  -- take
    rintro ⟨⟩
    obtain rfl := h.box_latest r hbox  -- the request taken is the latest one
    exact {
      box_latest := by rintro _ ⟨⟩
      caught_up := fun _ _ _ => List.getLast?_concat
      run_last := by rintro _ ⟨⟩; exact ⟨List.getLast?_concat, rfl⟩
      killed_pending := by rintro _ _ ⟨⟩ ⟨⟩
      shown_latest := by rintro _ ⟨⟩
      started_le := fun x hx =>
        (List.mem_append.1 hx).elim (h.started_le x) fun hx => Nat.le_of_eq (List.mem_singleton.1 hx)
      started_lt_box := by rintro _ ⟨⟩
      started_sorted := List.pairwise_append.2 ⟨h.started_sorted, List.pairwise_singleton _ _,
        fun a ha b hb => List.mem_singleton.1 hb ▸ h.started_lt_box _ hbox a ha⟩
      version_eq := by rw [List.length_append, ← h.version_eq]; rfl }
  case case7 p hrun _ =>  -- ready
    rintro ⟨⟩
    exact { h with
      run_last := by rintro _ ⟨⟩; exact h.run_last p hrun
      killed_pending := by rintro hq _ ⟨⟩ hk; exact h.killed_pending hq p hrun hk
      shown_latest := by rintro _ ⟨⟩ }
  case case9 p hrun hc =>  -- poll
    rintro ⟨⟩
    exact { h with
      run_last := by rintro _ ⟨⟩; exact h.run_last p hrun
      killed_pending := fun _ _ _ _ => hc.2.1
      shown_latest := by rintro _ ⟨⟩ }
  case case12 p hrun _ =>  -- finish
    rintro ⟨⟩
    exact { h with
      run_last := by rintro _ ⟨⟩
      killed_pending := by rintro _ _ ⟨⟩
      shown_latest := fun hq _ hb hpos => by
        -- the command that ended was the last one started, and nothing waits: it was the latest request
        obtain ⟨hreq, hver⟩ := h.run_last p hrun
        rw [h.caught_up hq hb hpos] at hreq
        rw [Option.some.inj hreq, ← hver] }
  case case15 p hrun hk =>  -- die
    rintro ⟨⟩
    exact { h with
      run_last := by rintro _ ⟨⟩
      killed_pending := by rintro _ _ ⟨⟩
      shown_latest := fun hq _ hb => by
        -- a killed command has a newer request waiting
        have := h.killed_pending hq p hrun hk
        rw [hb] at this; cases this }
  case case19 hq _ =>  -- exit
    rintro ⟨⟩
    exact { h with
      box_latest := by rintro _ ⟨⟩
      caught_up := by rintro ⟨⟩
      run_last := kill_run_last h
      killed_pending := by rintro ⟨⟩
      shown_latest := by rintro ⟨⟩
      started_lt_box := by rintro _ ⟨⟩ }
  all_goals rintro ⟨⟩

theorem run_inv (ends : Nat → Bool) (ls : List Label) (s : S) (h : Inv s) : Inv (run ends s ls) :=
  List.foldlRecOn ls _ h fun t ht l _ => by
    cases hl : step ends t l with
    | none => exact ht
    | some t' => exact step_inv ends ht hl

theorem reachable_inv (ends : Nat → Bool) (trace : List Label) : Inv (run ends {} trace) :=
  run_inv ends trace {} init_inv

end Fzf.Preview
