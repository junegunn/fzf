import Fzf.Model.Rank
import Fzf.Lemmas.List
/-
Ranks and their order: the worker slices, the chunk layouts `PassMerger.Get` indexes into (`Uniform`, `Layout`),
well-formed ranks (`WF`), `compareRanks` as a lexicographic order, and the total preorder `leRank` that agrees with
it on results of different items (`DistinctIdx`).
-/
namespace Fzf.Rank

theorem sliceGo_flatten (ps : Nat) (k : Nat) (l : List α) (hk : 0 < k) :
    (sliceGo ps k l).flatten = l := by
  fun_induction sliceGo ps k l with
  | case1 => cases hk
  | case2 l => exact List.append_nil l
  | case3 k l ih => rw [List.flatten_cons, ih k.succ_pos, List.take_append_drop]

theorem sliceGo_length (ps : Nat) (k : Nat) (l : List α) : (sliceGo ps k l).length = k := by
  fun_induction sliceGo ps k l with
  | case1 => rfl
  | case2 => rfl
  | case3 k l ih => exact congrArg (· + 1) ih

/-- Rank points as Go holds them: four uint16. -/
def WF (r : R) : Prop := r.pts.length = 4 ∧ ∀ p ∈ r.pts, p < 65536

theorem wf_get (r : R) (h : WF r) (i : Nat) : r.pts.getD i 0 < 65536 := by
  rw [List.getD_eq_getElem?_getD]
  cases hi : r.pts[i]? with
  | none => decide
  | some p => exact h.2 p (List.mem_of_getElem? hi)

/-- Chunks of a list in which every chunk except possibly the last holds exactly `cs` items, and the
    last one at most `cs`. -/
def Uniform (cs : Nat) : List (List Int) → Prop
  | [] => True
  | [c] => c.length ≤ cs
  | c :: c' :: rest => c.length = cs ∧ Uniform cs (c' :: rest)

theorem uniform_get_mul (cz : Nat) (l : List (List Int)) (q r : Nat) (h : Uniform cz l) (hr : r < cz) :
    l.flatten[q * cz + r]? = (l[q]?).bind (·[r]?) := by
  fun_induction Uniform cz l generalizing q with
  | case1 => rfl
  | case2 c =>
    -- the last chunk: at most `cz` items and nothing after it
    rw [List.flatten_cons, List.flatten_nil, List.append_nil]
    cases q with
    | zero => rw [Nat.zero_mul, Nat.zero_add]; rfl
    | succ q => exact List.getElem?_eq_none (Nat.le_add_right_of_le (Nat.succ_mul q cz ▸ Nat.le_add_left_of_le h))
  | case3 c c' rest ih =>
    -- a full chunk: the first `cz` items
    rw [List.flatten_cons]
    cases q with
    | zero => rw [Nat.zero_mul, Nat.zero_add]; exact List.getElem?_append_left (h.1 ▸ hr)
    | succ q =>
      rw [List.getElem?_append_right (by rw [h.1, Nat.succ_mul]; omega), h.1, Nat.succ_mul, Nat.add_right_comm,
        Nat.add_sub_cancel]
      exact ih q h.2

theorem uniform_get (cz : Nat) (hcz : 0 < cz) (l : List (List Int)) (j : Nat) (h : Uniform cz l) :
    l.flatten[j]? = (l[j / cz]?).bind (·[j % cz]?) := by
  rw [← uniform_get_mul cz l _ _ h (Nat.mod_lt j hcz), Nat.div_add_mod']

/-- The chunk layouts a snapshot can have: the first chunk possibly partial (after --tail trimming),
    every chunk between it and the last one full, the last one at most full. -/
def Layout (cs : Nat) : List (List Int) → Prop
  | [] => True
  | first :: rest => first.length ≤ cs ∧ Uniform cs rest

/-! ### The order

`compareRanks` is a lexicographic order: the packed points, then the item number. Transitivity, asymmetry
and totality of such a composition come from those of the second component; numerals in base `B`
compare digit by digit from the most significant one (`digit_lex_iff`), and `packed` is such a numeral with four
digits. Both variants of `compareRanks` are one loop, `compareRanksGeneric.go`, over a list of digit pairs: the
amd64 one over the single pair of packed words (`cmp_eq_go`), the generic one over the four pairs of points (the
theorem is `C04_cmp64_eq_generic`). The lemmas `cmp_*` are about `compareRanks64`. -/

theorem lex_false {p q : Nat} {A : Prop} (h : q < p) : ¬(p < q ∨ (p = q ∧ A)) :=
  fun h' => h'.elim (Nat.lt_asymm h) fun e => Nat.ne_of_gt h e.1

theorem lex_trans {p q r : Nat} {A B C : Prop} (hABC : A → B → C)
    (h1 : p < q ∨ (p = q ∧ A)) (h2 : q < r ∨ (q = r ∧ B)) : p < r ∨ (p = r ∧ C) := by
  rcases h1 with h1 | ⟨rfl, a⟩
  · rcases h2 with h2 | ⟨rfl, _⟩
    · exact Or.inl (Nat.lt_trans h1 h2)
    · exact Or.inl h1
  · exact h2.imp id fun ⟨e, b⟩ => ⟨e, hABC a b⟩

theorem lex_asymm {p q : Nat} {A B : Prop} (h : A ↔ ¬B) :
    p < q ∨ (p = q ∧ A) ↔ ¬(q < p ∨ (q = p ∧ B)) := by
  rcases Nat.lt_trichotomy p q with hlt | rfl | hgt
  · exact iff_of_true (.inl hlt) (lex_false hlt)
  · simp only [Nat.lt_irrefl, true_and, false_or, h]
  · exact iff_of_false (lex_false hgt) (not_not_intro (.inl hgt))

theorem lex_total {p q : Nat} {A B : Prop} (h : A ∨ B) : (p < q ∨ (p = q ∧ A)) ∨ (q < p ∨ (q = p ∧ B)) := by
  rcases Nat.lt_trichotomy p q with hlt | rfl | hgt
  · exact .inl (.inl hlt)
  · exact h.imp (fun a => .inr ⟨rfl, a⟩) fun b => .inr ⟨rfl, b⟩
  · exact .inr (.inl hgt)

/-- One digit of a lexicographic comparison: `P` is what the lower digits say. -/
theorem digit_lex_iff {B x y X Y : Nat} (hx : x < B) (hy : y < B) (P : Prop) :
    x + B * X < y + B * Y ∨ (x + B * X = y + B * Y ∧ P) ↔ X < Y ∨ (X = Y ∧ (x < y ∨ (x = y ∧ P))) := by
  -- a higher digit outweighs whatever stands below it
  have key : ∀ {x y X Y : Nat}, x < B → X < Y → x + B * X < y + B * Y := fun {x y X Y} hx h =>
    calc x + B * X < B + B * X := Nat.add_lt_add_right hx _
      _ = B * (X + 1) := by rw [Nat.mul_succ, Nat.add_comm]
      _ ≤ B * Y := Nat.mul_le_mul_left B h
      _ ≤ y + B * Y := Nat.le_add_left _ _
  rcases Nat.lt_trichotomy X Y with h | rfl | h
  · exact iff_of_true (.inl (key hx h)) (.inl h)
  · simp only [Nat.add_lt_add_iff_right, Nat.add_right_cancel_iff, Nat.lt_irrefl, true_and, false_or]
  · exact iff_of_false (lex_false (key hy h)) (lex_false h)

theorem digit_lt_iff {B x y X Y : Nat} (hx : x < B) (hy : y < B) :
    x + B * X < y + B * Y ↔ X < Y ∨ (X = Y ∧ x < y) := by
  simpa only [and_false, or_false] using digit_lex_iff (X := X) (Y := Y) hx hy False

/-- The loop compares a list of digit pairs lexicographically … -/
theorem compareRanksGeneric.go_cons_iff (a b : R) (tac : Bool) (p q : Nat) (rest : List (Nat × Nat)) :
    compareRanksGeneric.go a b tac ((p, q) :: rest) = true ↔
      p < q ∨ (p = q ∧ compareRanksGeneric.go a b tac rest = true) := by
  rw [compareRanksGeneric.go]
  rcases Nat.lt_trichotomy p q with h | rfl | h
  · rw [if_pos h]
    exact iff_of_true rfl (.inl h)
  · simp only [gt_iff_lt, Nat.lt_irrefl, if_false, false_or, true_and]
  · rw [if_neg (Nat.lt_asymm h), if_pos h]
    exact iff_of_false Bool.false_ne_true (lex_false h)

/-- … and breaks a tie by the item number, downwards under --tac. -/
theorem compareRanksGeneric.go_nil_iff (a b : R) (tac : Bool) :
    compareRanksGeneric.go a b tac [] = true ↔ if tac then b.index < a.index else a.index ≤ b.index := by
  rw [compareRanksGeneric.go]
  cases tac <;> simp only [bne_iff_ne, ne_eq, decide_eq_true_eq, decide_eq_false_iff_not, Bool.false_eq_true,
    if_false, if_true, Int.not_le, Int.not_lt]

/-- The amd64 fast path is that loop over one digit, the packed word. -/
theorem cmp_eq_go (a b : R) (tac : Bool) :
    compareRanks64 a b tac = compareRanksGeneric.go a b tac [(packed a, packed b)] := rfl

/-- `compareRanks` as a relation: the packed points first, then the item number (downwards under
    --tac). Everything about the order goes through this. -/
theorem cmp_iff (tac : Bool) (a b : R) :
    compareRanks64 a b tac = true ↔
      packed a < packed b ∨ (packed a = packed b ∧ if tac then b.index < a.index else a.index ≤ b.index) := by
  rw [cmp_eq_go, compareRanksGeneric.go_cons_iff, compareRanksGeneric.go_nil_iff]

theorem cmp_total_asymm {a b : R} (tac : Bool) (hidx : a.index ≠ b.index) :
    compareRanks64 a b tac = !compareRanks64 b a tac := by
  rw [Bool.eq_iff_iff, Bool.not_eq_true', ← Bool.not_eq_true, cmp_iff, cmp_iff]
  -- on a tie each way round is the negation of the other, the item numbers being distinct
  refine lex_asymm ?_
  cases tac
  · exact ⟨fun h1 h2 => hidx (Int.le_antisymm h1 h2), fun h => Int.le_of_lt (Int.not_le.mp h)⟩
  · exact ⟨Int.lt_asymm, fun h => Int.lt_iff_le_and_ne.mpr ⟨Int.not_lt.mp h, Ne.symm hidx⟩⟩

theorem cmp_total {a b : R} (tac : Bool) (h : a.index ≠ b.index) :
    compareRanks64 a b tac = true ∨ compareRanks64 b a tac = true := by
  rw [cmp_total_asymm tac h]
  cases compareRanks64 b a tac
  · exact Or.inl rfl
  · exact Or.inr rfl

theorem cmp_trans {a b c : R} {tac : Bool}
    (hab : compareRanks64 a b tac = true) (hbc : compareRanks64 b c tac = true) : compareRanks64 a c tac = true := by
  rw [cmp_iff] at *
  refine lex_trans ?_ hab hbc
  cases tac
  · exact fun h1 h2 => Int.le_trans h1 h2
  · exact fun h1 h2 => Int.lt_trans h2 h1

/-- The total preorder behind `compareRanks`: the packed points, then the item number (reversed
    under --tac). It agrees with `compareRanks` on results of different items (without --tac on all results)
    and is reflexive under --tac too — which is what the sorting lemmas of the library are stated for. -/
def leRank (tac : Bool) (a b : R) : Bool :=
  decide (packed a < packed b) || (decide (packed a = packed b) && (if tac then decide (b.index ≤ a.index) else decide (a.index ≤ b.index)))

theorem leRank_iff (tac : Bool) (a b : R) :
    leRank tac a b = true ↔
      packed a < packed b ∨ (packed a = packed b ∧ if tac then b.index ≤ a.index else a.index ≤ b.index) := by
  unfold leRank
  cases tac <;> simp only [Bool.false_eq_true, if_false, if_true, Bool.or_eq_true, Bool.and_eq_true, decide_eq_true_eq]

theorem leRank_total (tac : Bool) (a b : R) : (leRank tac a b || leRank tac b a) = true := by
  rw [Bool.or_eq_true, leRank_iff, leRank_iff]
  refine lex_total ?_
  cases tac
  · exact Int.le_total _ _
  · exact Int.le_total _ _

theorem leRank_trans (tac : Bool) (a b c : R) (h1 : leRank tac a b = true) (h2 : leRank tac b c = true) : leRank tac a c = true := by
  rw [leRank_iff] at *
  refine lex_trans ?_ h1 h2
  cases tac
  · exact fun h1 h2 => Int.le_trans h1 h2
  · exact fun h1 h2 => Int.le_trans h2 h1

theorem cmp_eq_leRank {a b : R} (tac : Bool) (h : a.index ≠ b.index) : compareRanks64 a b tac = leRank tac a b := by
  rw [Bool.eq_iff_iff, cmp_iff, leRank_iff]
  cases tac
  · rfl
  · exact or_congr_right (and_congr_right fun _ => ⟨Int.le_of_lt, fun h' => Int.lt_iff_le_and_ne.mpr ⟨h', Ne.symm h⟩⟩)

theorem leRank_antisymm_index (tac : Bool) (a b : R) (h1 : leRank tac a b = true) (h2 : leRank tac b a = true) :
    a.index = b.index := by
  refine Decidable.by_contra fun hi => ?_
  have := cmp_total_asymm tac hi
  rw [cmp_eq_leRank tac hi, cmp_eq_leRank tac (Ne.symm hi), h1, h2] at this
  cases this

/-- Results of different items. -/
def DistinctIdx (l : List R) : Prop := l.Pairwise fun a b => a.index ≠ b.index

theorem sort_eq_leRank (l : List R) (tac : Bool) (hd : DistinctIdx l) :
    l.mergeSort (fun a b => compareRanks64 a b tac) = l.mergeSort (leRank tac) :=
  List.mergeSort_congr _ _ l (hd.imp (cmp_eq_leRank tac))

end Fzf.Rank
