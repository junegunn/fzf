import Fzf.Base.Utf8
/-
The width `utf8.DecodeRune` reports lies within the buffer and is at least 1 on a non-empty one: what the key
decoder and the ANSI scanner need of it to stay in range and to advance.
-/
namespace Fzf.Utf8

theorem decodeRune_width (b : List Nat) :
    (decodeRune b).2 ≤ b.length ∧ (1 ≤ b.length → 1 ≤ (decodeRune b).2) := by
  -- every branch returns a literal width, above 1 only after matching that many bytes
  fun_cases decodeRune b <;> simp

end Fzf.Utf8
