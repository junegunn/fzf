import Fzf.Lemmas.AnsiLoop
import Fzf.Lemmas.Utf8
import Fzf.Lemmas.List
/-
The text side of `extractColor`. The escape-sequence scanner reports ranges that are non-empty, start at
or after the position it was asked to scan from and end inside the line, and none in text without control
characters; so the loop only drops pieces of the line, and leaves such text as it is. `Plain` is that condition on
a line (no BS, SO, SI or ESC byte), `StripInv` what the loop maintains: output and unscanned rest form a sublist.
-/
namespace Fzf.Ansi
open Fzf

theorem matchControlSequence_go_bound (s : Bytes) (i fuel k r : Nat)
    (h : matchControlSequence.go s i k fuel = some r) : 1 ≤ r ∧ i + r ≤ s.size := by
  revert h
  fun_induction matchControlSequence.go s i k fuel
  case case2 ih => exact ih  -- a parameter byte: the scan goes on
  all_goals simp only [Option.some.injEq, reduceCtorEq, false_imp_iff]
  omega  -- the final byte, at `i + k < s.size`: the answer is `k + 1`

theorem matchControlSequence_bound (s : Bytes) (i r : Nat) (h : matchControlSequence s i = some r) :
    1 ≤ r ∧ i + r ≤ s.size :=
  matchControlSequence_go_bound s i _ _ r h

theorem matchOSC_bound (s : Bytes) (i start r : Nat) (h : matchOSC s i start = some r) : 1 ≤ r ∧ i + r ≤ s.size := by
  revert h
  fun_cases matchOSC s i start
  -- whatever `k` the skipping stops at: the answer `k + 1` comes with the test `k < n`, and `k + 2`
  -- with `k + 1 < n`, where `n = s.size - i`
  all_goals simp +zetaDelta only [Option.some.injEq, reduceCtorEq, false_imp_iff] at *
  all_goals omega

theorem lastRuneWidth_back_le (s : Bytes) (lim : Nat) (fuel : Nat) (st : Int) :
    lastRuneWidth.back s lim st fuel ≤ st := by
  fun_induction lastRuneWidth.back s lim st fuel <;> omega

theorem lastRuneWidth_bound (s : Bytes) (e : Nat) (he : 0 < e) : 1 ≤ lastRuneWidth s e ∧ lastRuneWidth s e ≤ e := by
  fun_cases lastRuneWidth s e
  case case4 _ _ _ _ st _ w _ h =>
    -- the rune found ends at `e`; it starts before `e`, as the walk back starts at `e - 2`
    have hb := lastRuneWidth_back_le s (e - 4) 5 ((e : Int) - 2)
    have hlt : st < e := by simp +zetaDelta only; split <;> omega
    simp only [bne_iff_ne, ne_eq, Decidable.not_not] at h
    omega
  all_goals omega

/-- A matcher's length `j` at `i`, bounded, gives the range `(i, i + j)`: the step shared by the CSI and the OSC
    case of `nextEscape_go_range`. -/
theorem range_of_match {m : Option Nat} {i n b e : Nat} (hm : ∀ j, m = some j → 1 ≤ j ∧ i + j ≤ n)
    (h : m.map (fun j => (i, i + j)) = some (b, e)) : b = i ∧ b < e ∧ e ≤ n := by
  obtain ⟨j, hj, he⟩ := Option.map_eq_some_iff.mp h
  cases he
  have := hm j hj
  omega

theorem nextEscape_go_range (s : Bytes) (frm fuel i b e : Nat) (hfi : frm ≤ i)
    (h : nextEscape.go s frm i fuel = some (b, e)) : frm ≤ b ∧ b < e ∧ e ≤ s.size := by
  revert h
  fun_induction nextEscape.go s frm i fuel
  case case1 | case12 => nofun
  -- the scan moves on
  case case4 ih | case9 ih | case11 ih => exact ih (by omega)
  -- BS after an ASCII byte; ESC and an ASCII byte; SO / SI
  case case2 | case7 | case10 => simp only [Option.some.injEq, Prod.mk.injEq]; omega
  -- BS after a multi-byte rune
  case case3 i _ _ _ _ _ _ _ =>
    have := lastRuneWidth_bound (s.extract frm i) (i - frm) (by omega)
    simp +zetaDelta only [Option.some.injEq, Prod.mk.injEq]; omega
  -- a control sequence
  case case5 i _ _ _ _ _ _ _ hr =>
    rintro ⟨rfl⟩
    simp +zetaDelta only [Option.ite_none_right_eq_some] at hr
    have := range_of_match (matchControlSequence_bound s i) hr.2; omega
  -- an operating system command
  case case6 i _ _ _ _ _ _ _ _ _ hr =>
    rintro ⟨rfl⟩
    simp +zetaDelta only [Option.ite_none_right_eq_some] at hr
    have := range_of_match (matchOSC_bound s i _) hr.2.2; omega
  -- ESC and a multi-byte rune
  case case8 i _ _ _ _ _ _ _ _ _ _ _ _ w hd =>
    have hw := Utf8.decodeRune_width (s.extract (i + 1)).toList
    simp only [hd, Array.length_toList, Array.size_extract] at hw
    simp only [Option.some.injEq, Prod.mk.injEq]; omega

theorem nextEscape_range (s : Bytes) (frm b e : Nat) (h : nextEscape s frm = some (b, e)) :
    frm ≤ b ∧ b < e ∧ e ≤ s.size :=
  nextEscape_go_range s frm _ frm b e (Nat.le_refl _) h

/-- No byte that can start (or end) an escape sequence. -/
def Plain (s : Bytes) : Prop := ∀ i (h : i < s.size), s[i] ≠ 8 ∧ s[i] ≠ 0x0e ∧ s[i] ≠ 0x0f ∧ s[i] ≠ 0x1b

theorem nextEscape_go_plain (s : Bytes) (frm : Nat) (hp : Plain s) (i fuel : Nat) :
    nextEscape.go s frm i fuel = none := by
  induction fuel generalizing i with
  | zero => rfl
  | succ fuel ih =>
    unfold nextEscape.go
    by_cases h : i < s.size
    · obtain ⟨h1, h2, h3, h4⟩ := hp i h
      -- none of the four tests on `s[i]` succeeds: the scan moves on
      simp only [h, dite_true, beq_iff_eq, Bool.or_eq_true, h1, h2, h3, h4, or_self, if_false]
      exact ih (i + 1)
    · rw [dif_neg h]

theorem nextEscape_plain (s : Bytes) (frm : Nat) (hp : Plain s) : nextEscape s frm = none :=
  nextEscape_go_plain s frm hp _ _

/-- In plain text no round is ever made. -/
theorem extractLoop_plain (s : Bytes) (idBase : Nat) (hp : Plain s) (x : EX) (fuel : Nat) :
    extractLoop s idBase x fuel = x :=
  extractLoop_invariant (I := (· = x))
    (fun _ r => nomatch (nextEscape_plain s _ hp).symm.trans r.found) fuel x rfl

/-- What the stripping loop maintains: output followed by what is still to be scanned is a sublist
    of the line. -/
structure StripInv (s : Bytes) (x : EX) : Prop where
  idx_eq : x.idx = x.prevIdx
  sublist : (x.out.toList ++ s.toList.drop x.prevIdx).Sublist s.toList

/-- A round keeps it: the text up to the sequence is taken over, the sequence is skipped. -/
theorem stripInv_step {s : Bytes} {x x' : EX} {start stop : Nat} (h : StripInv s x) (r : Round s x start stop x') :
    StripInv s x' := by
  obtain ⟨r1, r2, _⟩ := nextEscape_range s x.idx start stop r.found
  refine ⟨r.idx.trans r.prevIdx.symm, .trans ?_ h.sublist⟩
  rw [r.out, r.prevIdx, Array.toList_append, Array.toList_extract, List.extract_eq_take_drop, List.append_assoc]
  exact .append_left (List.sublist_skip s.toList x.prevIdx start stop (h.idx_eq ▸ r1) (Nat.le_of_lt r2)) _

theorem extractFinish_fst (s : Bytes) (x : EX) :
    (extractFinish s x).1 = if x.prevIdx = 0 then s else x.out ++ s.extract x.prevIdx s.size := by
  by_cases h : x.offsets.size > 0 <;> simp only [extractFinish, h, if_true, if_false]

theorem stripInv_finish {s : Bytes} {x : EX} (h : StripInv s x) : (extractFinish s x).1.toList.Sublist s.toList := by
  rw [extractFinish_fst]
  split
  · exact .refl _
  · rw [Array.toList_append, Array.toList_extract, List.extract_eq_take_drop, List.take_of_length_le (by simp)]
    exact h.sublist

end Fzf.Ansi
