import Fzf.Model.Terminal
/-
The action interpreter: bounds for the word-boundary searches, the invariants `CxOk` and `SelOk` with the
line-edit and selection primitives, what surrounds `act` (`hideEdits`, `actStep`, `afterActions`, `step`)
once for any predicate (`_inv`: the predicate holds before; `_ind`: it holds of every possible result), and the
scroll offset `constrain` settles on.
-/
namespace Fzf.Terminal
open Fzf

/-! ### Bounds, and the two invariants of the query line and the selection -/

theorem lastBoundary.go_le (w : Nat → Bool) (l : Str) (i best : Nat) (hb : best ≤ i + l.length) :
    lastBoundary.go w i l best ≤ i + l.length := by
  fun_induction lastBoundary.go w i l best with
  | case1 i best a b rest ih =>  -- two runes or more: `i + 1` may become the best so far
    rw [List.length_cons, ← Nat.add_assoc, Nat.add_right_comm] at hb ⊢
    exact ih (by split <;> omega)
  | case2 => exact hb

theorem lastBoundary_le (w : Nat → Bool) (s : Str) : lastBoundary w s ≤ s.length :=
  Nat.zero_add s.length ▸ lastBoundary.go_le w s 0 0 (Nat.zero_le _)

theorem lastBoundary_take_le {w : Nat → Bool} {l : Str} {n : Nat} : lastBoundary w (l.take n) ≤ l.length :=
  Nat.le_trans (lastBoundary_le w _) (List.length_take_le' _ _)

theorem nextBoundary.go_le (w : Nat → Bool) (l : Str) (i : Nat) : nextBoundary.go w i l ≤ i + l.length := by
  fun_induction nextBoundary.go w i l with
  | case1 | case2 => exact Nat.zero_le _                           -- no rune left; a final newline
  | case3 => exact Nat.le_refl _                                   -- the last rune
  | case4 => exact Nat.add_le_add_left (Nat.le_add_left 1 _) _     -- a word ends here
  | case5 _ _ _ _ _ ih => rw [List.length_cons, ← Nat.add_assoc, Nat.add_right_comm]; exact ih

theorem nextBoundary_le (w : Nat → Bool) (s : Str) : nextBoundary w s ≤ s.length :=
  Nat.zero_add s.length ▸ nextBoundary.go_le w s 0

theorem nextBoundary_drop_le {w : Nat → Bool} {l : Str} {n : Nat} (h : n ≤ l.length) :
    n + nextBoundary w (l.drop n) ≤ l.length :=
  Nat.add_le_of_le_sub' h (List.length_drop ▸ nextBoundary_le _ _)

theorem constrainInt_range (v lo hi : Int) (h : lo ≤ hi) : lo ≤ constrainInt v lo hi ∧ constrainInt v lo hi ≤ hi := by
  fun_cases constrainInt v lo hi with
  | case1 => exact ⟨Int.le_refl _, h⟩
  | case2 => exact ⟨h, Int.le_refl _⟩
  | case3 hlo hhi => exact ⟨Int.not_lt.mp hlo, Int.not_lt.mp hhi⟩

theorem currentItem_isSome {s : TS} (h0 : 0 ≤ s.cy) (h1 : s.cy < s.results.length) :
    (currentItem s).isSome = true := by
  unfold currentItem
  rw [if_pos ⟨h0, h1⟩, List.getElem?_eq_getElem ((Int.toNat_lt h0).mpr h1)]
  rfl

/-- The query cursor stays inside the query. -/
def CxOk (s : TS) : Prop := s.cx ≤ s.input.length

/-- Never more than `--multi` items selected; nothing selectable without `--multi`. -/
def SelOk (op : Opts) (s : TS) : Prop := s.selected.length ≤ op.multi

/-- An edit at `a` keeps the first `a` runes of the line, inserts `mid` and puts the cursor behind it. -/
theorem cursor_after_insert {l : Str} {a : Nat} (h : a ≤ l.length) (mid rest : Str) :
    a + mid.length ≤ (l.take a ++ mid ++ rest).length := by
  rw [List.length_append, List.length_append, List.length_take_of_le h]
  exact Nat.le_add_right _ _

theorem cursor_after_cut {l : Str} {a : Nat} (h : a ≤ l.length) {rest : Str} : a ≤ (l.take a ++ rest).length :=
  List.append_nil (l.take a) ▸ cursor_after_insert h [] rest

/-! ### The selection primitives

`selectItem` returns the state as it is or with one more item selected (and then there was room);
`toggleCurrent` and `selectMany` are built from it. (For a predicate of the form "a field is what it was",
give `(P := …)`: the `rfl` passed for `h` does not determine it.) -/

theorem selectItem_inv {P : TS → Prop} (op : Opts) (s : TS) (i : Nat) (h : P s)
    (hadd : s.selected.length < op.multi → P { s with selected := s.selected ++ [i] }) : P (selectItem op s i).1 := by
  fun_cases selectItem op s i with
  | case1 | case2 => exact h  -- the limit is reached; `i` is selected already
  | case3 hfull => exact hadd (Nat.lt_of_not_le hfull)

theorem toggleCurrent_inv {P : TS → Prop} (op : Opts) (s : TS) (h : P s)
    (hadd : ∀ i, s.selected.length < op.multi → P { s with selected := s.selected ++ [i] })
    (hdel : ∀ i, P (deselectItem s i)) : P (toggleCurrent op s).1 := by
  fun_cases toggleCurrent op s with
  | case1 => exact h  -- no current item
  | case2 i => exact selectItem_inv op s i h (hadd i)
  | case3 i => exact hdel i

theorem toggleCurrent_selected (op : Opts) {s : TS} {i : Nat} (hc : currentItem s = some i) :
    (toggleCurrent op s).1.selected =
      if i ∈ s.selected then s.selected.filter (· != i)
      else if s.selected.length < op.multi then s.selected ++ [i] else s.selected := by
  unfold toggleCurrent selectItem
  rw [hc]
  dsimp only
  rw [List.contains_eq_mem]
  by_cases hm : i ∈ s.selected
  · rw [if_pos hm, decide_eq_true hm]; rfl
  · rw [if_neg hm, decide_eq_false hm]
    by_cases hr : s.selected.length < op.multi
    · rw [if_pos hr, if_neg (Nat.not_le_of_lt hr)]; rfl
    · rw [if_neg hr, if_pos (Nat.le_of_not_lt hr)]; rfl

theorem selectMany_inv {P : TS → Prop} (op : Opts) {f : Nat → Bool} {s : TS} {l : List Nat} (h : P s)
    (hsel : ∀ s i, P s → P (selectItem op s i).1) : P (selectMany op f s l) :=
  List.foldlRecOn (motive := fun (acc : TS × Bool) => P acc.1) l _ h fun _ hacc i _ => by
    split
    · exact hsel _ i hacc
    · exact hacc

/-- Toggle-and-move is the toggle followed by `vmove`, which sets the list cursor alone. -/
theorem toggleMove_inv {P : TS → Prop} (op : Opts) (s : TS) (d : Int) (h : P s) (ht : P (toggleCurrent op s).1)
    (hcy : ∀ t cy, P t → P { t with cy := cy }) : P (toggleMove op s d) :=
  iteInduction (fun _ => iteInduction (fun _ => hcy _ _ ht) fun _ => h) fun _ => h

theorem selOk_add {op : Opts} {s : TS} (i : Nat) (hroom : s.selected.length < op.multi) :
    SelOk op { s with selected := s.selected ++ [i] } := by
  unfold SelOk
  rw [List.length_append]
  exact hroom

theorem selOk_filter {op : Opts} {s : TS} {p : Nat → Bool} (h : SelOk op s) :
    SelOk op { s with selected := s.selected.filter p } :=
  Nat.le_trans (List.length_filter_le _ _) h

theorem selectItem_selOk (op : Opts) (s : TS) (i : Nat) (h : SelOk op s) : SelOk op (selectItem op s i).1 :=
  selectItem_inv op s i h (selOk_add i)

theorem toggleCurrent_selOk (op : Opts) (s : TS) (h : SelOk op s) : SelOk op (toggleCurrent op s).1 :=
  toggleCurrent_inv op s h selOk_add fun _ => selOk_filter h

theorem selectMany_selOk (op : Opts) {f : Nat → Bool} {s : TS} {l : List Nat} (h : SelOk op s) :
    SelOk op (selectMany op f s l) :=
  selectMany_inv op h (selectItem_selOk op)

/-! ### What surrounds `act`, for any predicate -/

/-- `constrain` touches the list cursor and the window alone. Seeing that by unfolding `constrain`
    is dear, so it is done here once for each invariant. -/
theorem constrain_cxOk (op : Opts) (s : TS) (h : CxOk s) : CxOk (constrain op s) := h

theorem constrain_selOk (op : Opts) (s : TS) (h : SelOk op s) : SelOk op (constrain op s) := h

theorem updateList_ind {P : TS → Prop} (op : Opts) (s : TS) (new : List Nat)
    (h : ∀ cy offset, P { s with results := new, cy := cy, offset := offset }) : P (updateList op s new) := by
  fun_cases updateList op s new
  all_goals exact h _ _

/-- The end of an action list truncates the query; beyond that it touches the result list, the list
    cursor and the window alone. -/
theorem afterActions_ind {P : TS → Prop} (op : Opts) (b s : TS)
    (h : ∀ results cy offset, P { s with input := s.input.take maxPatternLength,
                                         cx := min s.cx (min s.input.length maxPatternLength),
                                         results := results, cy := cy, offset := offset }) :
    P (afterActions op b s) := by
  unfold afterActions
  dsimp only
  -- `constrain` sets `cy` and `offset` only, so each state below unfolds to an instance of `h`
  split
  · exact updateList_ind (P := fun t => P (constrain op t)) op _ _ fun _ _ => h _ _ _
  · exact h _ _ _

theorem actStep_eq_act {op : Opts} {s : TS} {a : Action} (h : s.outcome = none)
    (ha : a ≠ .toggleDown ∧ a ≠ .toggleUp ∧ a ≠ .toggleIn ∧ a ≠ .toggleOut) :
    actStep op s a = hideEdits s (act op s a) := by
  unfold actStep
  rw [h, Option.isSome_none, if_neg Bool.false_ne_true]
  split
  · exact absurd rfl ha.1
  · exact absurd rfl ha.2.1
  · exact absurd rfl ha.2.2.1
  · exact absurd rfl ha.2.2.2
  · rfl

theorem hideEdits_inv {P : TS → Prop} (b s : TS) (hh : ∀ t, P t → P { t with input := b.input, cx := b.input.length })
    (h : P s) : P (hideEdits b s) :=
  iteInduction (fun _ => hh s h) fun _ => h

theorem hideEdits_shown (b : TS) {s : TS} (h : s.inputless = false) : hideEdits b s = s :=
  if_neg (by rw [h]; exact Bool.false_ne_true)

theorem hideEdits_input {b s : TS} (h : (hideEdits b s).inputless = true) : (hideEdits b s).input = b.input := by
  unfold hideEdits at h ⊢
  by_cases hi : s.inputless = true
  · rw [if_pos hi]
  · rw [if_neg hi] at h; exact absurd h hi

theorem hideEdits_selected {b s : TS} : (hideEdits b s).selected = s.selected :=
  hideEdits_inv (P := fun t => t.selected = s.selected) b s (fun _ ht => ht) rfl

theorem actStep_inv {P : TS → Prop} (op : Opts) (s : TS) (a : Action) (h : P s)
    (hact : P (act op s a)) (ht : P (toggleCurrent op s).1) (hcy : ∀ t cy, P t → P { t with cy := cy })
    (hhide : ∀ t, P t → P { t with input := s.input, cx := s.input.length }) : P (actStep op s a) := by
  unfold actStep
  refine iteInduction (fun _ => h) fun _ => hideEdits_inv s _ hhide ?_  -- the session is over; or it goes on
  split
  iterate 4 exact toggleMove_inv op s _ h ht hcy  -- the four toggle-and-move actions
  exact hact

theorem steps_inv {P : TS → Prop} (op : Opts) (hactStep : ∀ s a, P s → P (actStep op s a))
    (hafter : ∀ b s, P s → P (afterActions op b s)) (hist : List (List Action)) (s : TS) (h : P s) :
    P (hist.foldl (step op) s) :=
  List.foldlRecOn hist _ h fun s hs as _ =>
    hafter s _ (List.foldlRecOn as _ hs fun t ht a _ => hactStep t a ht)

/-! ### The scroll offset that `constrain` settles on

The two scroll-off phases and the iteration stay inside `[minOffset, maxOffset]`, and an offset in that
interval has the cursor on screen. -/

/- `ml cy lo so` are what `constrain`'s `phase0` is closed over (`maxLines`, the clamped cursor, `minOffset`, the
   scroll-off margin; `phase1` has `maxOffset`, `hi`, in place of `lo`) and `o` is the offset. Each phase moves the
   offset towards its own bound and so keeps it in `[lo, hi]`, whatever the other bound is. -/
theorem constrain.phase0_range {ml cy lo hi so o : Int} {fuel : Nat} (h : lo ≤ o ∧ o ≤ hi) :
    lo ≤ constrain.phase0 ml cy lo so o fuel ∧ constrain.phase0 ml cy lo so o fuel ≤ hi := by
  fun_induction constrain.phase0 ml cy lo so o fuel
  case case4 ih =>  -- the window moves up by one row, not beyond `lo`
    exact ih ⟨Int.le_max_left _ _,
      Int.max_le.mpr ⟨Int.le_trans h.1 h.2, Int.le_trans (Int.sub_le_self _ (by decide)) h.2⟩⟩
  all_goals exact h

theorem constrain.phase1_range {ml cy lo hi so o : Int} {fuel : Nat} (h : lo ≤ o ∧ o ≤ hi) :
    lo ≤ constrain.phase1 ml cy hi so o fuel ∧ constrain.phase1 ml cy hi so o fuel ≤ hi := by
  fun_induction constrain.phase1 ml cy hi so o fuel
  case case4 ih =>  -- the window moves down by one row, not beyond `hi`
    exact ih ⟨Int.le_min.mpr ⟨Int.le_trans h.1 h.2, Int.le_trans h.1 (Int.le_add_of_nonneg_right (by decide))⟩,
      Int.min_le_left _ _⟩
  all_goals exact h

/-- The settled offset is a value of `step`, unless there was no fuel at all. -/
theorem constrain.iter_ind {P : Int → Prop} {step : Int → Int} (hs : ∀ x, P (step x)) {x : Int} {fuel : Nat}
    (h0 : fuel = 0 → P x) : P (constrain.iter step x fuel) := by
  fun_induction constrain.iter step x fuel with
  | case1 => exact h0 rfl  -- no fuel
  | case2 x _ _ heq => exact heq ▸ hs x  -- a fixed point: `step x = x`
  | case3 _ _ _ _ ih => exact ih fun _ => hs _  -- another round

/-- With the cursor on a result (`hcy` in the shape `constrainInt_range` hands it over), the interval
    `[minOffset, maxOffset]` of `constrain` is not empty … -/
theorem minOffset_le_maxOffset {cy rows len : Int} (hrows : 0 < rows) (hcy : cy ≤ max 0 (len - 1)) (hlen : 0 < len) :
    max (cy - rows + 1) 0 ≤ max (min (len - rows) cy) 0 :=
  Int.max_le.mpr ⟨Int.le_trans (Int.le_min.mpr ⟨by omega, by omega⟩) (Int.le_max_left _ _), Int.le_max_right _ _⟩

/-- … and an offset in it shows the cursor and does not scroll past the end of the list. -/
theorem on_screen_of_offset {cy rows len o : Int} (hcy : 0 ≤ cy)
    (ho : max (cy - rows + 1) 0 ≤ o ∧ o ≤ max (min (len - rows) cy) 0) :
    0 ≤ o ∧ o ≤ cy ∧ cy < o + rows ∧ o ≤ max (len - rows) 0 := by
  have hlo := Int.le_trans (Int.le_max_left _ _) ho.1
  exact ⟨Int.le_trans (Int.le_max_right _ _) ho.1,
    Int.le_trans ho.2 (Int.max_le.mpr ⟨Int.min_le_right _ _, hcy⟩),
    by omega,
    Int.le_trans ho.2 (Int.max_le.mpr ⟨Int.le_trans (Int.min_le_left _ _) (Int.le_max_left _ _), Int.le_max_right _ _⟩)⟩

end Fzf.Terminal
