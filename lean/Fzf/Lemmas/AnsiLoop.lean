import Fzf.Model.Ansi
/-
The main loop of `extractColor`: what one round does to the state (`Round`), and the rule by which the loop's
invariants are proved from that alone.
-/
namespace Fzf.Ansi
open Fzf

/-- The spans with the open one (there is one exactly when a colour state is on) closed at rune count `rc`: a
    round does this before it opens a span or turns colours off, `extractFinish` at the end of the line. -/
def closeSpan (x : EX) (rc : Nat) : Array Offset := if x.state.isSome then setLastEnd x.offsets rc else x.offsets

/-- One round of the loop, on the sequence `[start, stop)` the scanner reports, takes `x` to `x'`. The spans stay
    (colour state as before), or the open one is closed (colours off), or it is closed and a new one opened. -/
structure Round (s : Bytes) (x : EX) (start stop : Nat) (x' : EX) : Prop where
  found : nextEscape s x.idx = some (start, stop)
  out : x'.out = x.out ++ s.extract x.prevIdx start
  prevIdx : x'.prevIdx = stop
  idx : x'.idx = stop
  runeCount : x.runeCount ≤ x'.runeCount
  offsets : x'.offsets = x.offsets ∨ x'.offsets = closeSpan x x'.runeCount ∨
    ∃ c, x'.offsets = (closeSpan x x'.runeCount).push ⟨x'.runeCount, x'.runeCount, c⟩

/-- **Invariants of the loop**: what holds of the start state and is kept by every round holds when the loop ends. -/
theorem extractLoop_invariant {s : Bytes} {idBase : Nat} {I : EX → Prop}
    (step : ∀ {x start stop x'}, I x → Round s x start stop x' → I x') (fuel : Nat) (x : EX) :
    I x → I (extractLoop s idBase x fuel) := by
  fun_induction extractLoop s idBase x fuel
  case case3 ih =>  -- a new colour state
    exact fun h => ih (step h ⟨by assumption, rfl, rfl, rfl, Nat.le_add_right _ _, .inr (.inr ⟨_, rfl⟩)⟩)
  case case4 ih =>  -- colours off
    exact fun h => ih (step h ⟨by assumption, rfl, rfl, rfl, Nat.le_add_right _ _, .inr (.inl rfl)⟩)
  case case5 ih =>  -- the colour state as before
    exact fun h => ih (step h ⟨by assumption, rfl, rfl, rfl, Nat.le_add_right _ _, .inl rfl⟩)
  all_goals exact id  -- the loop ends: out of fuel, no further sequence, or the line scanned to its end

end Fzf.Ansi
