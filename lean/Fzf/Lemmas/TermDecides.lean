import Fzf.Lemmas.Pattern
import Fzf.Lemmas.Exact
import Fzf.Lemmas.Anchored
/-
C01: exact terms (`'t`; under --exact or after `!`, a term without the quote) and anchored terms (`^t`,
`t$`, `^t$`) are decided exactly over the searched fields: reported to match iff the text occurs in one of
them (at the place the anchor allows). `OccursIn cfg cs norm p tk` is "the term's text occurs in the token".
-/
namespace Fzf.Pattern
open Fzf Fzf.Algo

/-- The term's text occurs in the token (after case folding / normalisation of the token). -/
def OccursIn (cfg : Cfg) (cs norm : Bool) (p : Array Nat) (tk : Tok) : Prop :=
  ∃ s, s + p.size ≤ tk.text.size ∧ ∀ i, i < p.size → foldRune cfg cs norm (tk.text.getD (s + i) 0) = p.getD i 0

/-- **Exact terms are decided exactly.** In fzf's three schemes, for tokens whose `isBytes` flag
    is truthful (it says the text is all ASCII): the exact matcher run over the searched fields
    returns, and it reports a match if and only if the term's text occurs in one of them —
    whichever direction it searches, whatever partial matches precede the occurrence. -/
theorem exact_term_decides (cfg : Cfg) (hs : RealScheme cfg) (hnorm : ∀ c, c < 128 → cfg.norm c = c)
    (v2 : Bool) (cs norm fwd : Bool) (p : Array Nat) (hm : 0 < p.size) (wp : Bool) (cap : Nat) (toks : List Tok)
    (htok : ∀ t ∈ toks, t.isBytes = true → ∀ c ∈ t.text.toList, c < 128) :
    ∃ x, iter cfg v2 .exact toks cs norm fwd p wp cap = .ok x ∧
      (x.isSome = true ↔ ∃ t ∈ toks, OccursIn cfg cs norm p t) := by
  rw [iter_eq_firstHit]
  exact firstHit_decides _ _ toks fun t ht =>
    exactMatchNaive_decides cfg hs.nonneg hnorm cs norm fwd t.text t.isBytes p (htok t ht) hm

/-- **Anchored terms are decided exactly**: `^t` is reported iff some searched field has `t` right
    after its leading whitespace; `t$` iff some field has it right before its trailing whitespace;
    `^t$` iff some field, trimmed, is `t` (whitespace kept where the term itself has it). -/
theorem anchored_terms_decide (cfg : Cfg) (v2 : Bool) (cs norm fwd : Bool) (p : Array Nat) (hm : 0 < p.size) (wp : Bool) (cap : Nat)
    (toks : List Tok) :
    (∃ x, iter cfg v2 .prefix toks cs norm fwd p wp cap = .ok x ∧ (x.isSome = true ↔ ∃ t ∈ toks,
      OccAt (fun c pc => foldTL cfg cs norm c == pc) t.text p (if !cfg.U.isSpace (p.getD 0 0) then leadingWhitespaces cfg t.text else 0))) ∧
    (∃ x, iter cfg v2 .suffix toks cs norm fwd p wp cap = .ok x ∧ (x.isSome = true ↔ ∃ t ∈ toks,
      p.size ≤ suffixEnd cfg t.text p ∧ OccAt (fun c pc => foldTL cfg cs norm c == pc) t.text p (suffixEnd cfg t.text p - p.size))) ∧
    (∃ x, iter cfg v2 .equal toks cs norm fwd p wp cap = .ok x ∧ (x.isSome = true ↔ ∃ t ∈ toks,
      ((t.text.size : Int) - (if !cfg.U.isSpace (p.getD 0 0) then leadingWhitespaces cfg t.text else 0 : Nat) -
          (if !cfg.U.isSpace (p.getD (p.size - 1) 0) then trailingWhitespaces cfg t.text else 0 : Nat) = p.size ∧
        OccAt (equalOk cfg cs norm) t.text p (if !cfg.U.isSpace (p.getD 0 0) then leadingWhitespaces cfg t.text else 0)))) := by
  -- each kind is `firstHit_decides` fed with what its match function decides on one field
  simp only [iter_eq_firstHit]
  refine ⟨firstHit_decides (h := fun t _ => ?_) .., firstHit_decides (h := fun t _ => ?_) .., firstHit_decides (h := fun t _ => ?_) ..⟩
  · exact (prefixMatch_spec cfg cs norm t.text p hm rfl).mono fun _ h => h.1
  · exact (suffixMatch_spec cfg cs norm t.text p hm).mono fun _ h => h.1
  · exact (equalMatch_spec cfg cs norm t.text p hm rfl rfl).mono fun _ h => h.1

end Fzf.Pattern
