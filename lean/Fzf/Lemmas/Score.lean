import Fzf.Lemmas.Algo
import Fzf.Lemmas.List
/-
The bonus table (`RealScheme cfg`: the scheme is one of the three fzf has); the scoring walk returns on every
range inside the text (`calcFold_returns`); what `calculateScore` returns on a range in which every position
matches: `occScore`, the documented score of an occurrence (`runScore` over its positions), a function of the
line and the range alone; its bounds.
-/
namespace Fzf.Algo

/-- `bonusFor` only ever returns one of the two scheme bonuses or one of the constants 8, 7, 0:
    what holds of these holds of every entry of the bonus matrix. -/
theorem bonusFor_ind {P : Int → Prop} (sch : Scheme) (hW : P sch.bWhite) (hD : P sch.bDelim)
    (h8 : P 8) (h7 : P 7) (h0 : P 0) (prev cls : Nat) : P (bonusFor sch prev cls) :=
  iteInduction (fun _ => hW) fun _ => iteInduction (fun _ => hD) fun _ =>
    iteInduction (fun _ => h8) fun _ => iteInduction (fun _ => h7) fun _ =>
    iteInduction (fun _ => h8) fun _ => iteInduction (fun _ => hW) fun _ => h0

/-- The scheme is one of the three fzf has. -/
def RealScheme (cfg : Cfg) : Prop := cfg.sch = schemeDefault ∨ cfg.sch = schemePath ∨ cfg.sch = schemeHistory

theorem RealScheme.nonneg {cfg : Cfg} (hs : RealScheme cfg) : 0 ≤ cfg.sch.bWhite ∧ 0 ≤ cfg.sch.bDelim := by
  rcases hs with h | h | h <;> rw [h] <;> decide

theorem RealScheme.le_ten {cfg : Cfg} (hs : RealScheme cfg) : cfg.sch.bWhite ≤ 10 ∧ cfg.sch.bDelim ≤ 10 := by
  rcases hs with h | h | h <;> rw [h] <;> decide

/-- In the three schemes fzf has, every bonus is between 0 and 10, so doubling the first
    character's bonus never leaves int16. -/
theorem bonusFor_range {cfg : Cfg} (hs : RealScheme cfg) (prev cls : Nat) :
    0 ≤ bonusFor cfg.sch prev cls ∧ bonusFor cfg.sch prev cls ≤ 10 :=
  bonusFor_ind (P := fun x => 0 ≤ x ∧ x ≤ 10) cfg.sch ⟨hs.nonneg.1, hs.le_ten.1⟩ ⟨hs.nonneg.2, hs.le_ten.2⟩
    (by decide) (by decide) (by decide) prev cls

theorem bonusFor_rules (sch : Scheme) (prev cls : Nat) :
    (cls > cNonWord → prev = cWhite → bonusFor sch prev cls = sch.bWhite) ∧
    (cls > cNonWord → prev = cDelim → bonusFor sch prev cls = sch.bDelim) ∧
    (cls > cNonWord → prev = cNonWord → bonusFor sch prev cls = bonusBoundary) ∧
    (prev = cLower → cls = cUpper → bonusFor sch prev cls = bonusCamel123) ∧
    (prev > cDelim → prev ≠ cNumber → cls = cNumber → bonusFor sch prev cls = bonusCamel123) ∧
    (prev > cDelim → (cls = cNonWord ∨ cls = cDelim) → bonusFor sch prev cls = bonusNonWord) ∧
    (cls = cWhite → bonusFor sch prev cls = sch.bWhite) ∧
    (prev > cDelim → cls = prev → cls ≠ cNumber ∨ prev = cNumber → bonusFor sch prev cls = 0) := by
  -- rules 1–3 are the first three tests of the definition, 4 and 5 the two halves of the fourth, 6 and 7 the
  -- fifth and sixth, 8 the final `else`; the hypotheses of each rule refute the tests before it
  simp only [bonusFor, cWhite, cNonWord, cDelim, cLower, cUpper, cNumber]
  refine ⟨?_, ?_, ?_, ?_, ?_, ?_, ?_, ?_⟩ <;> intros
  · rw [if_pos (by omega)]
  · rw [if_neg (by omega), if_pos (by omega)]
  · rw [if_neg (by omega), if_neg (by omega), if_pos (by omega)]
  · rw [if_neg (by omega), if_neg (by omega), if_neg (by omega), if_pos (by omega)]
  · rw [if_neg (by omega), if_neg (by omega), if_neg (by omega), if_pos (by omega)]
  · rw [if_neg (by omega), if_neg (by omega), if_neg (by omega), if_neg (by omega), if_pos (by omega)]
  · rw [if_neg (by omega), if_neg (by omega), if_neg (by omega), if_neg (by omega), if_neg (by omega),
      if_pos (by omega)]
  · rw [if_neg (by omega), if_neg (by omega), if_neg (by omega), if_neg (by omega), if_neg (by omega),
      if_neg (by omega)]

/-- **The documented score of a run of matched positions.** `k` = how many pattern characters
    were matched before, `prev` = class of the character before the first position, `fb` = the
    bonus the current run started with. Every position earns 16 plus its bonus; the first
    pattern character's bonus counts twice (in Go's int16); inside a run the bonus is at least the
    consecutive bonus 4 and at least the run's first bonus, and a boundary bonus larger than the
    run's first bonus becomes the new first bonus. -/
def runScore (cfg : Cfg) (t : Text) : List Nat → Nat → Nat → Int → Int
  | [], _, _, _ => 0
  | idx :: rest, k, prev, fb =>
    let cls := charClassOf cfg (t.getD idx 0)
    let b0 := bonusFor cfg.sch prev cls
    let fb' := if k = 0 then b0 else if b0 ≥ bonusBoundary ∧ b0 > fb then b0 else fb
    let bonus := if k = 0 then b0 else max (max b0 fb') bonusConsecutive
    scoreMatch + (if k = 0 then w16 (bonus * bonusFirstCharMultiplier) else bonus) + runScore cfg t rest (k + 1) cls fb'

/-- The documented score of the occurrence `[s, s+m)` of a line. -/
def occScore (cfg : Cfg) (t : Text) (s m : Nat) : Int :=
  runScore cfg t ((List.range m).map (s + ·)) 0
    (if s > 0 then charClassOf cfg (t.getD (s - 1) 0) else cfg.sch.initClass) 0

theorem calcStep_pidx_le (cfg : Cfg) (cs norm : Bool) (t p : Text) (withPos : Bool) (st : CS) (idx : Nat)
    (h1 : idx < t.size) (h2 : st.pidx < p.size) :
    Post (fun st' => st'.pidx ≤ st.pidx + 1) (calcStep cfg cs norm t p withPos st idx) := by
  simp only [calcStep, post_get_bind, post_ite, post_pure, h1, h2, true_and]
  omega

theorem calcFold_returns (cfg : Cfg) (cs norm : Bool) (t p : Text) (withPos : Bool) (idxs : List Nat) (st : CS)
    (h1 : ∀ idx ∈ idxs, idx < t.size) (h2 : st.pidx + idxs.length ≤ p.size) :
    Post (fun _ => True) (idxs.foldlM (calcStep cfg cs norm t p withPos) st) := by
  induction idxs generalizing st with
  | nil => exact post_pure.mpr trivial
  | cons idx rest ih =>
    rw [List.length_cons] at h2
    exact post_bind (calcStep_pidx_le cfg cs norm t p withPos st idx (h1 idx List.mem_cons_self) (by omega)) fun st1 hp =>
      ih st1 (fun j hj => h1 j (List.mem_cons_of_mem _ hj)) (by omega)

/-- One step of the walk on a matching position: the score so far plus the documented run score
    of what is left does not change (the step adds what `runScore` peels off). `hk` is "no gap so far": the
    run is as long as the matched prefix, so the walk's test `consecutive == 0` is `runScore`'s `k = 0`. -/
theorem calcStep_match (cfg : Cfg) (cs norm : Bool) (t p : Text) (st : CS) (idx : Nat)
    (h1 : idx < t.size) (h2 : st.pidx < p.size)
    (hm : foldRune cfg cs norm (t.getD idx 0) = p.getD st.pidx 0) (hk : st.consecutive = st.pidx) :
    Post (fun st' => st'.pidx = st.pidx + 1 ∧ st'.consecutive = st'.pidx ∧
        ∀ rest, st'.score + runScore cfg t rest st'.pidx st'.prevClass st'.firstBonus =
          st.score + runScore cfg t (idx :: rest) st.pidx st.prevClass st.firstBonus)
      (calcStep cfg cs norm t p false st idx) := by
  unfold calcStep
  rw [get_ok t idx h1, get_ok p st.pidx h2]
  simp only [bind, Except.bind]
  rw [if_pos (beq_iff_eq.mpr hm)]
  refine post_ok.mpr ⟨rfl, congrArg (· + 1) hk, fun rest => ?_⟩
  simp only [runScore, hk, beq_iff_eq, max16_eq_max]
  by_cases h0 : st.pidx = 0
  · simp only [h0, if_true]; omega
  · simp only [h0, if_false]; omega

theorem calcFold_run (cfg : Cfg) (cs norm : Bool) (t p : Text) (idxs : List Nat) (st : CS)
    (hin : ∀ idx ∈ idxs, idx < t.size) (hp : st.pidx + idxs.length ≤ p.size)
    (hm : ∀ j (h : j < idxs.length), foldRune cfg cs norm (t.getD idxs[j] 0) = p.getD (st.pidx + j) 0)
    (hk : st.consecutive = st.pidx) :
    Post (fun st' => st'.score = st.score + runScore cfg t idxs st.pidx st.prevClass st.firstBonus)
      (idxs.foldlM (calcStep cfg cs norm t p false) st) := by
  induction idxs generalizing st with
  | nil => exact post_pure.mpr (Int.add_zero _).symm
  | cons idx rest ih =>
    rw [List.length_cons] at hp
    refine post_bind (calcStep_match cfg cs norm t p st idx (hin idx List.mem_cons_self) (by omega) (hm 0 (Nat.zero_lt_succ _)) hk)
      fun st1 ⟨hp1, hk1, hsc⟩ => ?_
    refine (ih st1 (fun j hj => hin j (List.mem_cons_of_mem _ hj)) (by omega) (fun j hj => ?_) hk1).mono
      fun st2 hsc2 => hsc2.trans (hsc rest)
    rw [hp1, Nat.add_right_comm]
    exact hm (j + 1) (Nat.succ_lt_succ hj)

/-- The scoring walk starts from the class of the character before the range (read safely: the range
    starts inside the text), or from the scheme's initial class at the start of the line. -/
theorem calculateScore_eq (cfg : Cfg) (cs norm : Bool) (t p : Text) (sidx eidx : Nat) (withPos : Bool) (h : sidx ≤ t.size) :
    calculateScore cfg cs norm t p sidx eidx withPos =
      (do let st ← ((List.range (eidx - sidx)).map (sidx + ·)).foldlM (calcStep cfg cs norm t p withPos)
            { prevClass := if sidx > 0 then charClassOf cfg (t.getD (sidx - 1) 0) else cfg.sch.initClass }
          pure (st.score, if withPos then some st.pos.reverse else Option.none)) := by
  unfold calculateScore
  by_cases hs : sidx > 0
  · rw [if_pos hs, if_pos hs, get_ok t (sidx - 1) (by omega)]; rfl
  · rw [if_neg hs, if_neg hs]; rfl

/-- **calculateScore on an occurrence** returns the documented score of that occurrence: a function of
    the line and the range, not of the pattern text. -/
theorem calculateScore_occ (cfg : Cfg) (cs norm : Bool) (t p : Text) (s : Nat)
    (hfit : s + p.size ≤ t.size)
    (hocc : ∀ i, i < p.size → foldRune cfg cs norm (t.getD (s + i) 0) = p.getD i 0) :
    calculateScore cfg cs norm t p s (s + p.size) false = .ok (occScore cfg t s p.size, Option.none) := by
  rw [calculateScore_eq cfg cs norm t p s _ false (by omega), Nat.add_sub_cancel_left, occScore]
  generalize (if s > 0 then charClassOf cfg (t.getD (s - 1) 0) else cfg.sch.initClass) = c  -- whatever the class before it
  obtain ⟨st, hst, hsc⟩ := calcFold_run cfg cs norm t p ((List.range p.size).map (s + ·)) { prevClass := c }
    (fun idx hidx => by have := List.lt_add_of_mem_map_add_range hidx; omega)
    (by simp)
    (fun j hj => by simpa using hocc j (by simpa using hj))
    rfl
  rw [hst, ok_bind, hsc, Int.zero_add]
  rfl

/-- Inside a run (`k > 0`) every matched character earns 16 plus a bonus between the consecutive
    bonus 4 and 10, when no bonus leaves 0..10. -/
theorem runScore_bounds (cfg : Cfg) (t : Text)
    (hs : ∀ prev cls, 0 ≤ bonusFor cfg.sch prev cls ∧ bonusFor cfg.sch prev cls ≤ 10)
    (idxs : List Nat) (k prev : Nat) (fb : Int) (hk : k ≠ 0) (hfb : 0 ≤ fb ∧ fb ≤ 10) :
    (20 : Int) * idxs.length ≤ runScore cfg t idxs k prev fb ∧ runScore cfg t idxs k prev fb ≤ (26 : Int) * idxs.length := by
  induction idxs generalizing k prev fb with
  | nil => exact ⟨Int.le_refl 0, Int.le_refl 0⟩
  | cons idx rest ih =>
    have hb := hs prev (charClassOf cfg (t.getD idx 0))
    simp only [runScore, if_neg hk, List.length_cons]
    generalize bonusFor cfg.sch prev (charClassOf cfg (t.getD idx 0)) = b0 at hb ⊢
    have := ih (k + 1) (charClassOf cfg (t.getD idx 0)) (if b0 ≥ bonusBoundary ∧ b0 > fb then b0 else fb)
      (Nat.succ_ne_zero k) (by split <;> omega)
    simp only [scoreMatch, bonusConsecutive]
    omega

/-- When no bonus leaves 0..10, an occurrence of `m ≥ 1` characters scores at least `16m + 4(m-1)` and at most
    `16m + 10(m+1)`: its first character earns 16 plus twice its bonus (no wrap-around in int16: the bonus is at
    most 10), the others are inside a run. -/
theorem occScore_bounds (cfg : Cfg) (t : Text)
    (hs : ∀ prev cls, 0 ≤ bonusFor cfg.sch prev cls ∧ bonusFor cfg.sch prev cls ≤ 10) (s : Nat) {m : Nat} (hm : 0 < m) :
    (16 : Int) * m + 4 * (m - 1) ≤ occScore cfg t s m ∧ occScore cfg t s m ≤ (16 : Int) * m + 10 * (m + 1) := by
  obtain ⟨m', rfl⟩ : ∃ m', m = m' + 1 := ⟨m - 1, by omega⟩
  rw [occScore, ← List.range'_eq_map_range, List.range'_succ]
  generalize (if s > 0 then charClassOf cfg (t.getD (s - 1) 0) else cfg.sch.initClass) = prev
  have hb := hs prev (charClassOf cfg (t.getD s 0))
  have := runScore_bounds cfg t hs (List.range' (s + 1) m') 1 (charClassOf cfg (t.getD s 0)) _ Nat.one_ne_zero hb
  rw [List.length_range'] at this
  simp only [runScore, if_true, Nat.zero_add]
  rw [show ∀ b : Int, b * bonusFirstCharMultiplier = b * 2 from fun _ => rfl, w16_small _ (by omega) (by omega)]
  simp only [scoreMatch]
  omega

end Fzf.Algo
