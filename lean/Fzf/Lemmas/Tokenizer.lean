import Fzf.Model.Tokenizer
/-
The three splitters (AWK fields, string delimiter, regex match locations) partition the line, and the
prefix lengths of the tokens are the offsets of their pieces. Defines `LocsOK` (match locations as Go returns them).
-/
namespace Fzf.Tokenizer
open Fzf

/- The AWK and the string splitter keep what they have read of the current piece in `cur`, reversed: the pieces
   still to come concatenate to that followed by the rest of the input. The regex splitter keeps the offset `b`
   of the current piece, and the pieces still to come concatenate to `s.drop b`. -/
theorem awk_go_flatten (cur : Str) (w : Bool) (s : Str) :
    (awkTokenizer.go cur w s).flatten = cur.reverse ++ s := by
  fun_induction awkTokenizer.go cur w s <;> simp_all

theorem awk_partition (s : Str) :
    s.takeWhile isAwkWhite ++ (awkTokenizer s).1.flatten = s := by
  rw [awkTokenizer, awk_go_flatten]
  exact List.prefix_iff_eq_append.1 (List.takeWhile_prefix _)

theorem splitAfter_go_flatten (sep cur s : Str) (fuel : Nat) (hf : s.length < fuel) (hsep : sep ≠ []) :
    (splitAfter.go sep cur s fuel).flatten = cur.reverse ++ s := by
  fun_induction splitAfter.go sep cur s fuel
  case case1 => omega  -- no fuel
  case case2 => simp_all  -- end of input
  case case3 hp ih =>  -- a separator here
    -- the separator is not empty, so the fuel (the length of the input, plus one) suffices
    have hpre := List.isPrefixOf_iff_prefix.1 hp
    have hlen := hpre.length_le
    have hpos : 0 < sep.length := List.length_pos_iff.2 hsep
    rw [List.flatten_cons, ih (by rw [List.length_drop]; omega), List.reverse_nil, List.nil_append,
      List.append_assoc, List.prefix_iff_eq_append.1 hpre]
  case case4 ih => rw [ih (by simp at hf; omega)]; simp  -- any other character
  case case5 => simp_all  -- unreachable: the input is not empty

theorem splitAfter_partition (sep s : Str) (hsep : sep ≠ []) : (splitAfter sep s).flatten = s :=
  splitAfter_go_flatten sep [] s _ (Nat.lt_succ_self _) hsep

/-- Match locations as `FindAllStringIndex` returns them: ends are non-decreasing from
    `begin_` on and inside the text. -/
def LocsOK (begin_ : Nat) (n : Nat) : List (Nat × Nat) → Prop
  | [] => begin_ ≤ n
  | (_, e) :: rest => begin_ ≤ e ∧ e ≤ n ∧ LocsOK e n rest

theorem regex_go_flatten (s : Str) (locs : List (Nat × Nat)) (b : Nat) (h : LocsOK b s.length locs) :
    (regexTokens.go s b locs).flatten = s.drop b := by
  fun_induction regexTokens.go s b locs
  case case1 => simp  -- no more matches, a last field remains
  case case2 b _ =>  -- no more matches, nothing remains
    have hb : b ≤ s.length := h
    simp [Nat.le_antisymm hb (by omega)]
  case case3 b _ e rest ih =>  -- a field up to the end `e` of the next match
    obtain ⟨hbe, -, hrest⟩ := h
    have hd : s.drop e = (s.drop b).drop (e - b) := by rw [List.drop_drop, Nat.add_sub_cancel' hbe]
    rw [List.flatten_cons, ih hrest, hd, List.take_append_drop]

theorem regex_partition (s : Str) (locs : List (Nat × Nat)) (h : LocsOK 0 s.length locs) :
    (regexTokens s locs).flatten = s :=
  regex_go_flatten s locs 0 h

theorem withPrefixLengths_go_texts (toks : List Str) (pl : Nat) :
    (withPrefixLengths.go toks pl).map (·.text) = toks := by
  fun_induction withPrefixLengths.go toks pl <;> simp_all

theorem joinTokens_withPrefixLengths (toks : List Str) (b : Nat) :
    joinTokens (withPrefixLengths toks b) = toks.flatten := by
  rw [joinTokens, List.flatMap_def, withPrefixLengths, withPrefixLengths_go_texts]

theorem withPrefixLengths_go_offsets (toks : List Str) (pl : Nat) (k : Nat) (hk : k < toks.length) :
    ((withPrefixLengths.go toks pl)[k]?).map (·.prefixLength) =
      some (pl + ((toks.take k).map charLen).sum) := by
  induction toks generalizing pl k with
  | nil => simp at hk
  | cons t rest ih =>
    cases k with
    | zero => simp [withPrefixLengths.go]
    | succ k =>
      simp only [withPrefixLengths.go, List.getElem?_cons_succ, List.take_succ_cons, List.map_cons, List.sum_cons]
      rw [ih (pl + charLen t) k (by simpa using hk)]
      simp [Nat.add_assoc]

end Fzf.Tokenizer
