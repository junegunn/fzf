/-
Total correctness in `Except ε`: `Post P x` says that `x` returns and its result satisfies `P`.
The `post_*` lemmas compute the weakest precondition of straight-line monadic code (by rewriting where they are
`↔`). `Post P x` is by definition `∃ a, x = .ok a ∧ P a`, the form in which the property theorems say it: a `Post`
fact can be given where that form is asked.
-/
namespace Fzf

def Post {ε α : Type} (P : α → Prop) (x : Except ε α) : Prop := ∃ a, x = .ok a ∧ P a

variable {ε α β : Type} {P : α → Prop}

theorem post_ok {a : α} : Post P (.ok a : Except ε α) ↔ P a :=
  ⟨fun ⟨_, h, hp⟩ => by cases h; exact hp, fun h => ⟨a, rfl, h⟩⟩

theorem post_pure {a : α} : Post P (pure a : Except ε α) ↔ P a := post_ok

theorem post_ite {c : Prop} [Decidable c] {x y : Except ε α} :
    Post P (if c then x else y) ↔ (c → Post P x) ∧ (¬c → Post P y) := by
  by_cases h : c <;> simp [h]

theorem ok_bind (a : β) (f : β → Except ε α) : (Except.ok a >>= f) = f a := rfl

theorem not_post_error_bind {e : ε} {f : β → Except ε α} : ¬ Post P (Except.error e >>= f) :=
  fun ⟨_, h, _⟩ => nomatch h

theorem post_bind {Q : β → Prop} {x : Except ε β} {f : β → Except ε α}
    (hx : Post Q x) (hf : ∀ a, Q a → Post P (f a)) : Post P (x >>= f) :=
  let ⟨a, ha, hq⟩ := hx
  ha ▸ hf a hq

theorem Post.mono {Q : α → Prop} {x : Except ε α} (h : Post P x) (hPQ : ∀ a, P a → Q a) : Post Q x :=
  h.imp fun a ⟨e, p⟩ => ⟨e, hPQ a p⟩

theorem Post.returns {x : Except ε α} (h : Post P x) : ∃ a, x = .ok a := h.imp fun _ h => h.1

theorem Post.elim {x : Except ε α} {a : α} (h : Post P x) (hx : x = .ok a) : P a :=
  post_ok.mp (hx ▸ h)

theorem except_bind_ok {x : Except ε α} {f : α → Except ε β} {r : β} (h : (x >>= f) = .ok r) :
    ∃ a, x = .ok a ∧ f a = .ok r := by
  cases x with
  | error e => cases h
  | ok a => exact ⟨a, rfl, h⟩

end Fzf
