import Fzf.Model.ChunkHeap
/-
The heap of chunk cells: old cells are left alone by a heap that only grows (`cell_of_prefix`), what `push` and
`handOut` do to a well-formed list (`WF`), one characterisation each, and that the cells `handOut` hands to a
snapshot are `Protected`: the list will not write to them (`handOut_protected`).
-/
namespace Fzf.ChunkHeap
open Fzf

/-- Well-formed list: chunk ids are distinct and allocated. -/
def WF (cl : CL) : Prop := cl.ids.Nodup ∧ ∀ id ∈ cl.ids, id < cl.cells.length

/-- A cell the list will never write to: allocated, and not the list's last chunk. -/
def Protected (id : Nat) (cl : CL) : Prop := id < cl.cells.length ∧ cl.ids.getLast? ≠ some id

theorem wf_empty : WF ⟨[], []⟩ := ⟨List.nodup_nil, fun _ h => nomatch h⟩

theorem wf_last {cl : CL} (h : WF cl) {front : List Nat} {last : Nat} (hids : cl.ids = front ++ [last]) :
    last ∉ front ∧ last < cl.cells.length ∧ ∀ id ∈ front, id < cl.cells.length := by
  obtain ⟨hnd, hb⟩ := h
  rw [hids] at hnd hb
  exact ⟨fun hin => (List.nodup_append.mp hnd).2.2 _ hin _ (List.mem_singleton_self _) rfl,
    hb _ (List.mem_append_right _ (List.mem_singleton_self _)), fun id hid => hb id (List.mem_append_left _ hid)⟩

theorem cell_of_prefix {cl cl' : CL} (hp : cl.cells <+: cl'.cells) {id : Nat} (h : id < cl.cells.length) :
    cl'.cell id = cl.cell id := by
  obtain ⟨extra, he⟩ := hp
  rw [CL.cell, CL.cell, ← he, List.getD_eq_getElem?_getD, List.getD_eq_getElem?_getD, List.getElem?_append_left h]

theorem cell_append_new (ids : List Nat) (cells new : List (List Int)) (i : Nat) :
    (⟨ids, cells ++ new⟩ : CL).cell (cells.length + i) = new.getD i [] := by
  simp only [CL.cell, List.getD_eq_getElem?_getD, List.getElem?_append_right (Nat.le_add_right _ _),
    Nat.add_sub_cancel_left]

theorem cell_append_head (ids : List Nat) (cells : List (List Int)) (c : List Int) (rest : List (List Int)) :
    (⟨ids, cells ++ c :: rest⟩ : CL).cell cells.length = c :=
  cell_append_new ids cells (c :: rest) 0

theorem cell_alloc_new (cl : CL) (c : List Int) : (alloc cl c).1.cell (alloc cl c).2 = c :=
  cell_append_head ..

theorem cell_set_ne {ids : List Nat} (cl : CL) {j id : Nat} {v : List Int} (h : id ≠ j) :
    (⟨ids, cl.cells.set j v⟩ : CL).cell id = cl.cell id := by
  simp only [CL.cell, List.getD_eq_getElem?_getD, List.getElem?_set_ne (Ne.symm h)]

theorem cell_set_eq {ids : List Nat} (cl : CL) {j : Nat} {v : List Int} (h : j < cl.cells.length) :
    (⟨ids, cl.cells.set j v⟩ : CL).cell j = v := by
  simp only [CL.cell, List.getD_eq_getElem?_getD, List.getElem?_set_self h, Option.getD_some]

theorem contents_nil (cl : CL) : contents cl [] = [] := rfl

theorem contents_cons (cl : CL) (a : Nat) (l : List Nat) : contents cl (a :: l) = cl.cell a ++ contents cl l :=
  List.flatMap_cons

theorem contents_append (cl : CL) (a b : List Nat) : contents cl (a ++ b) = contents cl a ++ contents cl b :=
  List.flatMap_append

theorem contents_concat (cl : CL) (l : List Nat) (a : Nat) : contents cl (l ++ [a]) = contents cl l ++ cl.cell a := by
  rw [contents_append, contents_cons, contents_nil, List.append_nil]

theorem contents_congr {cl cl' : CL} (l : List Nat) (h : ∀ id ∈ l, cl'.cell id = cl.cell id) :
    contents cl' l = contents cl l := by
  rw [contents, contents, List.flatMap_def, List.flatMap_def, List.map_congr_left h]

theorem contents_of_prefix {cl cl' : CL} (hp : cl.cells <+: cl'.cells) {l : List Nat}
    (hl : ∀ id ∈ l, id < cl.cells.length) : contents cl' l = contents cl l :=
  contents_congr _ fun id hid => cell_of_prefix hp (hl id hid)

theorem countItems_contents (cl : CL) (l : List Nat) : countItems cl l = (contents cl l).length :=
  List.length_flatMap.symm

/-- A cell stays protected, and stays as it is, when the heap only grows and the list's last chunk
    stays or becomes a new cell. -/
theorem protected_of_prefix {id : Nat} {cl cl' : CL} (h : Protected id cl) (hp : cl.cells <+: cl'.cells)
    (hl : cl'.ids.getLast? = some id → cl.ids.getLast? = some id ∨ cl.cells.length ≤ id) :
    Protected id cl' ∧ cl'.cell id = cl.cell id :=
  ⟨⟨Nat.lt_of_lt_of_le h.1 hp.length_le, fun hl' => (hl hl').elim h.2 (Nat.not_le.mpr h.1)⟩, cell_of_prefix hp h.1⟩

/-- `push` either allocates a cell for the item or writes into the cell of the last chunk. -/
theorem push_cases (cz : Nat) (cl : CL) (item : Int) :
    push cz cl item = ⟨cl.ids ++ [cl.cells.length], cl.cells ++ [[item]]⟩ ∨
    ∃ front last, cl.ids = front ++ [last] ∧
      push cz cl item = { cl with cells := cl.cells.set last (cl.cell last ++ [item]) } := by
  fun_cases push cz cl item
  case case1 ha =>  -- the last chunk is full
    cases ha
    exact .inl rfl
  case case2 last hlast _ =>  -- there is room in the last chunk
    obtain ⟨front, hids⟩ := List.getLast?_eq_some_iff.mp hlast
    exact .inr ⟨front, last, hids, rfl⟩
  case case3 hnone _ _ ha =>  -- no chunk yet
    cases ha
    rw [List.getLast?_eq_none_iff.mp hnone]
    exact .inl rfl

theorem push_wf (cz : Nat) (cl : CL) (item : Int) (h : WF cl) : WF (push cz cl item) := by
  rcases push_cases cz cl item with he | ⟨front, last, _, he⟩
  · -- a new cell: its id, `cl.cells.length`, lies above every id of the list
    rw [he]
    refine ⟨List.nodup_append.mpr ⟨h.1, List.pairwise_singleton _ _, ?_⟩, ?_⟩
    · intro a ha b hb e
      cases List.mem_singleton.mp hb
      exact Nat.lt_irrefl _ (e ▸ h.2 a ha)
    · intro id hid
      rw [List.length_append]
      rcases List.mem_append.mp hid with hid | hid
      · exact Nat.lt_succ_of_lt (h.2 id hid)
      · cases List.mem_singleton.mp hid; exact Nat.lt_succ_self _
  · rw [he]
    exact ⟨h.1, fun id hid => by rw [List.length_set]; exact h.2 id hid⟩

theorem push_protected (cz : Nat) (id : Nat) (cl : CL) (item : Int) (h : Protected id cl) :
    Protected id (push cz cl item) ∧ (push cz cl item).cell id = cl.cell id := by
  rcases push_cases cz cl item with he | ⟨front, last, hids, he⟩
  · rw [he]
    refine protected_of_prefix h (List.prefix_append _ _) fun hl => .inr ?_
    rw [List.getLast?_concat] at hl
    cases hl; exact Nat.le_refl _
  · rw [he]
    have hlast : id ≠ last := fun e => h.2 (by rw [hids, e, List.getLast?_concat])
    exact ⟨⟨by rw [List.length_set]; exact h.1, h.2⟩, cell_set_ne cl hlast⟩

theorem push_contents (cz : Nat) (cl : CL) (item : Int) (h : WF cl) :
    contents (push cz cl item) (push cz cl item).ids = contents cl cl.ids ++ [item] := by
  rcases push_cases cz cl item with he | ⟨front, last, hids, he⟩
  · rw [he, contents_concat, contents_of_prefix (List.prefix_append _ _) h.2, cell_append_head]
  · obtain ⟨hnotin, hlast, _⟩ := wf_last h hids
    rw [he, hids, contents_concat, contents_concat, cell_set_eq cl hlast,
      contents_congr front fun id hid => cell_set_ne cl (j := last) fun e => hnotin (e ▸ hid), List.append_assoc]

theorem pushes_contents (cz : Nat) (items : List Int) (cl : CL) (h : WF cl) :
    contents (items.foldl (push cz) cl) (items.foldl (push cz) cl).ids = contents cl cl.ids ++ items := by
  induction items generalizing cl with
  | nil => exact (List.append_nil _).symm
  | cons i items ih =>
    rw [List.foldl_cons, ih _ (push_wf cz cl i h), push_contents cz cl i h, List.append_assoc]
    rfl

/-- `handOut` copies the last chunk behind the heap, and under --tail (with two chunks or more) the
    first chunk as well; everything in between is shared. -/
theorem handOut_cases (tail : Nat) (cl : CL) :
    cl.ids = [] ∧ handOut tail cl = (cl, []) ∨
    ∃ front last, cl.ids = front ++ [last] ∧
      (handOut tail cl = (⟨cl.ids, cl.cells ++ [cl.cell last]⟩, front ++ [cl.cells.length]) ∨
       ∃ first mid, front = first :: mid ∧
         handOut tail cl = (⟨cl.ids, cl.cells ++ [cl.cell last, cl.cell first]⟩,
           (cl.cells.length + 1) :: mid ++ [cl.cells.length])) := by
  fun_cases handOut tail cl
  case case1 hrev => exact .inl ⟨List.reverse_eq_nil_iff.mp hrev, rfl⟩
  case case2 last restRev hrev _ hfr =>  -- one chunk
    refine .inr ⟨_, last, List.reverse_eq_cons_iff.mp hrev, ?_⟩
    rw [hfr]
    exact .inl rfl
  case case3 last restRev hrev _ first mid hfr _ =>  -- two chunks or more, under --tail
    refine .inr ⟨_, last, List.reverse_eq_cons_iff.mp hrev, ?_⟩
    rw [hfr]
    exact .inr ⟨first, mid, rfl, rfl⟩
  case case4 last restRev hrev _ first mid hfr _ =>  -- two chunks or more, no --tail
    refine .inr ⟨_, last, List.reverse_eq_cons_iff.mp hrev, ?_⟩
    rw [hfr]
    exact .inl rfl

theorem handOut_grows (tail : Nat) (cl : CL) : ∃ extra, (handOut tail cl).1 = ⟨cl.ids, cl.cells ++ extra⟩ := by
  rcases handOut_cases tail cl with ⟨_, he⟩ | ⟨front, last, _, he | ⟨first, mid, _, he⟩⟩ <;> rw [he]
  · exact ⟨[], by rw [List.append_nil]⟩
  · exact ⟨_, rfl⟩
  · exact ⟨_, rfl⟩

theorem handOut_ids (tail : Nat) (cl : CL) : (handOut tail cl).1.ids = cl.ids := by
  obtain ⟨extra, he⟩ := handOut_grows tail cl
  rw [he]

theorem handOut_cells_prefix (tail : Nat) (cl : CL) : cl.cells <+: (handOut tail cl).1.cells := by
  obtain ⟨extra, he⟩ := handOut_grows tail cl
  rw [he]; exact List.prefix_append _ _

theorem handOut_wf (tail : Nat) (cl : CL) (h : WF cl) : WF (handOut tail cl).1 := by
  unfold WF
  rw [handOut_ids]
  exact ⟨h.1, fun id hid => Nat.lt_of_lt_of_le (h.2 id hid) (handOut_cells_prefix tail cl).length_le⟩

theorem handOut_contents (tail : Nat) (cl : CL) (h : WF cl) :
    contents (handOut tail cl).1 (handOut tail cl).2 = contents cl cl.ids := by
  -- (for the empty list the `rw` leaves nothing to show)
  rcases handOut_cases tail cl with ⟨hids, he⟩ | ⟨front, last, hids, he | ⟨first, mid, rfl, he⟩⟩ <;> rw [he, hids]
  · -- `front` is shared and reads as before, the copy of `last` reads as `last`
    obtain ⟨_, _, hfront⟩ := wf_last h hids
    rw [contents_concat, contents_concat, contents_of_prefix (cl := cl) (List.prefix_append _ _) hfront,
      cell_append_head]
  · -- likewise with `mid` shared and `first` copied too
    obtain ⟨_, _, hfront⟩ := wf_last h hids
    have hmid : ∀ id ∈ mid, id < cl.cells.length := fun id hid => hfront id (List.mem_cons_of_mem _ hid)
    rw [contents_concat, contents_concat, contents_cons, contents_cons, cell_append_new _ _ _ 1,
      cell_append_head, contents_of_prefix (cl := cl) (List.prefix_append _ _) hmid]
    rfl

theorem handOut_list_contents (tail : Nat) (cl : CL) (h : WF cl) :
    contents (handOut tail cl).1 (handOut tail cl).1.ids = contents cl cl.ids := by
  rw [handOut_ids]
  exact contents_of_prefix (handOut_cells_prefix tail cl) h.2

/-- The two kinds of id a snapshot hands out are protected once the copies are allocated: a shared
    chunk before the last one, and a copy behind the old heap. -/
theorem protected_handed {cl : CL} (h : WF cl) {front : List Nat} {last : Nat} (hids : cl.ids = front ++ [last])
    {id : Nat} {extra : List (List Int)}
    (hid : id ∈ front ∨ cl.cells.length ≤ id ∧ id < cl.cells.length + extra.length) :
    Protected id ⟨cl.ids, cl.cells ++ extra⟩ := by
  obtain ⟨hnotin, hlast, hfront⟩ := wf_last h hids
  refine ⟨?_, fun hl => ?_⟩
  · rw [List.length_append]
    exact hid.elim (fun hf => Nat.lt_add_right _ (hfront id hf)) (·.2)
  · rw [show (⟨cl.ids, cl.cells ++ extra⟩ : CL).ids = front ++ [last] from hids, List.getLast?_concat] at hl
    cases hl
    exact hid.elim hnotin fun hn => Nat.not_lt.mpr hn.1 hlast

/-- No cell a snapshot refers to will be written again. -/
theorem handOut_protected (tail : Nat) (cl : CL) (h : WF cl) :
    ∀ id ∈ (handOut tail cl).2, Protected id (handOut tail cl).1 := by
  intro id hid
  rcases handOut_cases tail cl with ⟨_, he⟩ | ⟨front, last, hids, he | ⟨first, mid, rfl, he⟩⟩ <;> rw [he] at hid ⊢
  · cases hid
  · -- `front ++ [n]` with `n = cl.cells.length`: shared chunks, then the copy of the last
    refine protected_handed h hids ?_
    rcases List.mem_append.mp hid with hf | hn
    · exact .inl hf
    · cases List.mem_singleton.mp hn
      exact .inr ⟨Nat.le_refl _, Nat.lt_succ_self _⟩
  · -- `(n + 1) :: mid ++ [n]`: the copy of the first chunk, shared chunks, the copy of the last
    refine protected_handed h hids ?_
    rcases List.mem_cons.mp hid with rfl | hid
    · exact .inr ⟨Nat.le_succ _, Nat.lt_succ_self _⟩
    · rcases List.mem_append.mp hid with hf | hn
      · exact .inl (List.mem_cons_of_mem _ hf)
      · cases List.mem_singleton.mp hn
        exact .inr ⟨Nat.le_refl _, Nat.lt_add_of_pos_right (Nat.zero_lt_succ _)⟩

end Fzf.ChunkHeap
