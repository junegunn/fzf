import Fzf.Lemmas.ChunkHeap
import Fzf.Lemmas.Str
/-
The --tail side of `ChunkList.Snapshot`: what trimming leaves, what a snapshot then shows, what the
`changed` result says, and what that means over a whole history and for two snapshots taken under
one revision; and, since every snapshot trims first, well-formedness and protection along a history
(`steps_wf`, `steps_protected`). Of a history, `pushedBy` is the items it pushes and `snapsWith tail` says that its
snapshots all trim to `tail`; `coRun` is the coordinator's revision counter along it, with a `Rec` per snapshot.
-/
namespace Fzf.ChunkHeap
open Fzf

/-- The first loop of `Snapshot`. Throughout, `left` is `T` minus the number of items in the chunks
    taken so far, and the cut falls inside the chunk taken last; the loop stops before the front of
    the list only when nothing is left to take. -/
theorem keep_inv (cl : CL) (T : Nat) {rev : List Nat} {left : Int} {acc ks : List Nat} {left' : Int}
    (hk : keep cl rev left acc = (ks, left'))
    (h1 : left = (T : Int) - (contents cl acc).length)
    (h2 : ∀ a as, acc = a :: as → (-left).toNat ≤ (cl.cell a).length) :
    (∃ pre, rev.reverse ++ acc = pre ++ ks ∧ (pre = [] ∨ left' ≤ 0)) ∧
    left' = (T : Int) - (contents cl ks).length ∧
    (∀ a as, ks = a :: as → (-left').toNat ≤ (cl.cell a).length) := by
  revert hk
  fun_induction keep cl rev left acc <;> intro hk
  case case1 left acc =>  -- no chunk left to take
    cases hk
    exact ⟨⟨[], rfl, .inl rfl⟩, h1, h2⟩
  case case2 id rest left acc hpos ih =>  -- more to take: chunk `id` joins
    have := ih
      (by rw [contents_cons, List.length_append, Int.natCast_add, h1, Int.sub_sub, Int.add_comm])
      -- `left > 0` items were still wanted, so chunk `id` overshoots by less than its length
      (by intro a as e; cases e; rw [Int.neg_sub, Int.toNat_le]; exact Int.sub_le_self _ (Int.le_of_lt hpos)) hk
    rwa [List.reverse_cons, List.append_assoc]
  case case3 id rest left acc hneg =>  -- enough taken
    cases hk
    exact ⟨⟨(id :: rest).reverse, rfl, .inr (Int.not_lt.mp hneg)⟩, h1, h2⟩

/-- The loop as `trim` runs it: the chunks kept are a suffix of the list, and cutting
    `(-left).toNat` items off the first of them leaves the last `tail` items of the list. -/
theorem keep_tail (tail : Nat) (cl : CL) {ks : List Nat} {left : Int}
    (hk : keep cl cl.ids.reverse tail [] = (ks, left)) :
    ∃ pre, cl.ids = pre ++ ks ∧ (contents cl ks).drop (-left).toNat = lastN tail (contents cl cl.ids) ∧
      ∀ a as, ks = a :: as → (-left).toNat ≤ (cl.cell a).length := by
  obtain ⟨⟨pre, hids, hstop⟩, rfl, hcut⟩ := keep_inv cl tail hk
    (by rw [contents_nil]; exact (Int.sub_zero _).symm) (fun _ _ e => nomatch e)
  rw [List.reverse_reverse, List.append_nil] at hids
  refine ⟨pre, hids, ?_, hcut⟩
  rw [Int.neg_sub, Int.toNat_sub]
  show lastN tail _ = _  -- by definition of `lastN`: the cut is at `length - tail`
  rw [hids]
  rcases hstop with rfl | hstop
  · rfl
  · -- stopped early: `ks` holds at least `tail` items, so `pre` plays no part
    rw [contents_append]
    exact (lastN_append_of_le_length _ _ _ (Int.ofNat_le.mp (Int.le_of_sub_nonpos hstop))).symm

/-- What `trim` does: nothing, or it keeps a non-empty suffix of the chunks, the first of them cut
    down to a freshly allocated cell when the cut falls inside it. -/
theorem trim_cases (tail : Nat) (cl : CL) :
    trim tail cl = cl ∧ (0 < tail → lastN tail (contents cl cl.ids) = contents cl cl.ids) ∨
    ∃ pre first rest k, cl.ids = pre ++ first :: rest ∧
      (cl.cell first).drop k ++ contents cl rest = lastN tail (contents cl cl.ids) ∧
      (k = 0 ∧ trim tail cl = { cl with ids := first :: rest } ∨
       trim tail cl = ⟨cl.cells.length :: rest, cl.cells ++ [(cl.cell first).drop k]⟩) := by
  fun_cases trim tail cl
  case case1 hc left heq =>  -- nothing kept: excluded, more than `tail` items are there
    obtain ⟨_, _, hlast, _⟩ := keep_tail tail cl heq
    have := congrArg List.length hlast
    rw [contents_nil, List.drop_nil, lastN_length, ← countItems_contents, Nat.min_eq_left (Nat.le_of_lt hc.2)] at this
    exact absurd this (Nat.ne_of_lt hc.1)
  case case2 hc first rest left heq hneg _ _ ha =>  -- the cut falls inside `first`
    cases ha
    obtain ⟨pre, hids, hlast, hcut⟩ := keep_tail tail cl heq
    rw [contents_cons, List.drop_append_of_le_length (hcut _ _ rfl)] at hlast
    exact .inr ⟨pre, first, rest, _, hids, hlast, .inr rfl⟩
  case case3 hc first rest left heq hneg =>  -- the cut falls between two chunks
    obtain ⟨pre, hids, hlast, hcut⟩ := keep_tail tail cl heq
    rw [contents_cons, List.drop_append_of_le_length (hcut _ _ rfl)] at hlast
    exact .inr ⟨pre, first, rest, _, hids, hlast,
      .inl ⟨Int.toNat_of_nonpos (Int.neg_nonpos_of_nonneg (Int.not_lt.mp hneg)), rfl⟩⟩
  case case4 hc =>  -- no --tail, or no more than `tail` items: nothing to trim
    refine .inl ⟨rfl, fun ht => lastN_of_length_le _ _ ?_⟩
    rw [← countItems_contents]
    exact Nat.le_of_not_lt fun hgt => hc ⟨ht, hgt⟩

theorem trim_cells_prefix (tail : Nat) (cl : CL) : cl.cells <+: (trim tail cl).cells := by
  rcases trim_cases tail cl with ⟨he, _⟩ | ⟨_, _, _, _, _, _, ⟨_, he⟩ | he⟩ <;> rw [he]
  · exact List.prefix_refl _
  · exact List.prefix_refl _
  · exact List.prefix_append _ _

theorem trim_wf (tail : Nat) (cl : CL) (h : WF cl) : WF (trim tail cl) := by
  rcases trim_cases tail cl with ⟨he, _⟩ | ⟨pre, first, rest, k, hids, _, hc⟩
  · rw [he]; exact h
  · obtain ⟨hnd, hb⟩ := h
    rw [hids] at hnd hb
    have hnd' : (first :: rest).Nodup := (List.nodup_append.mp hnd).2.1
    have hb' : ∀ id ∈ rest, id < cl.cells.length := fun id hid =>
      hb id (List.mem_append_right _ (List.mem_cons_of_mem _ hid))
    rcases hc with ⟨_, he⟩ | he <;> rw [he]
    · exact ⟨hnd', fun id hid => hb id (List.mem_append_right _ hid)⟩
    · -- the new id, `cl.cells.length`, lies above every id of `rest`
      refine ⟨List.nodup_cons.mpr ⟨fun hin => Nat.lt_irrefl _ (hb' _ hin), (List.nodup_cons.mp hnd').2⟩, ?_⟩
      intro id hid
      rw [List.length_append]
      rcases List.mem_cons.mp hid with rfl | hid
      · exact Nat.lt_succ_self _
      · exact Nat.lt_succ_of_lt (hb' id hid)

/-- The `hl` of `protected_of_prefix` for `trim`: the last chunk afterwards is the old last chunk or a new cell. -/
theorem trim_getLast? (tail : Nat) (cl : CL) (l : Nat) (hl : (trim tail cl).ids.getLast? = some l) :
    cl.ids.getLast? = some l ∨ cl.cells.length ≤ l := by
  rcases trim_cases tail cl with ⟨he, _⟩ | ⟨pre, first, rest, k, hids, _, hc⟩
  · rw [he] at hl; exact .inl hl
  · rw [hids, List.getLast?_append, List.getLast?_cons, Option.some_or]
    rcases hc with ⟨_, he⟩ | he <;> rw [he, List.getLast?_cons] at hl
    · exact .inl hl
    · -- the new cell is the last chunk only when `rest` is empty
      cases hr : rest.getLast? with
      | none => rw [hr] at hl; cases hl; exact .inr (Nat.le_refl _)
      | some x => rw [hr] at hl; exact .inl hl

theorem trim_contents (tail : Nat) (cl : CL) (h : WF cl) (ht : 0 < tail) :
    contents (trim tail cl) (trim tail cl).ids = lastN tail (contents cl cl.ids) := by
  rcases trim_cases tail cl with ⟨he, hall⟩ | ⟨pre, first, rest, k, hids, hlast, hc⟩
  · rw [he, hall ht]
  · have hrest : ∀ id ∈ rest, id < cl.cells.length := fun id hid =>
      h.2 id (hids ▸ List.mem_append_right _ (List.mem_cons_of_mem _ hid))
    rw [← hlast]
    rcases hc with ⟨rfl, he⟩ | he <;> rw [he, contents_cons]
    · rfl
    · rw [cell_append_head, contents_of_prefix (cl := cl) (List.prefix_append _ _) hrest]

theorem snapshot_wf (tail : Nat) (cl : CL) (h : WF cl) : WF (snapshot tail cl).1 :=
  handOut_wf tail _ (trim_wf tail cl h)

theorem step_wf (cz : Nat) {cl : CL} (op : Op) (h : WF cl) : WF (step cz cl op) := by
  cases op with
  | push i => exact push_wf cz cl i h
  | snap t => exact snapshot_wf t cl h

theorem steps_wf (cz : Nat) (ops : List Op) {cl : CL} (h : WF cl) : WF (ops.foldl (step cz) cl) :=
  List.foldlRecOn ops _ h fun _ h op _ => step_wf cz op h

theorem step_protected (cz : Nat) (id : Nat) {cl : CL} (op : Op) (h : Protected id cl) :
    Protected id (step cz cl op) ∧ (step cz cl op).cell id = cl.cell id := by
  cases op with
  | push i => exact push_protected cz id cl i h
  | snap t =>
    -- `trim` and `handOut` only allocate, and `handOut` leaves the list's ids as `trim` left them
    refine protected_of_prefix (cl' := (handOut t (trim t cl)).1) h
      ((trim_cells_prefix t cl).trans (handOut_cells_prefix t _)) fun hl => trim_getLast? t cl id ?_
    rwa [handOut_ids] at hl

theorem steps_protected (cz : Nat) (id : Nat) (ops : List Op) {cl : CL} (h : Protected id cl) :
    (ops.foldl (step cz) cl).cell id = cl.cell id :=
  (List.foldlRecOn (motive := fun s => Protected id s ∧ s.cell id = cl.cell id) ops _ ⟨h, rfl⟩ fun _ hs op _ =>
    (step_protected cz id op hs.1).imp_right (·.trans hs.2)).2

/-- A snapshot of a well-formed list reads the same in every later heap: no cell it refers to is written again. -/
theorem snapshot_frozen (cz tail : Nat) {cl : CL} (h : WF cl) (ops : List Op) :
    ∀ id ∈ (snapshot tail cl).2, (ops.foldl (step cz) (snapshot tail cl).1).cell id = (snapshot tail cl).1.cell id :=
  fun id hid => steps_protected cz id ops (handOut_protected tail _ (trim_wf tail cl h) id hid)

theorem trim_of_unchanged {tail : Nat} {cl : CL} (hc : changed tail cl = false) : trim tail cl = cl :=
  if_neg (of_decide_eq_false hc)

/-- After a snapshot the list holds what the snapshot shows. -/
theorem snapshot_list_eq_shown (tail : Nat) (cl : CL) (h : WF cl) :
    contents (snapshot tail cl).1 (snapshot tail cl).1.ids = contents (snapshot tail cl).1 (snapshot tail cl).2 :=
  (handOut_list_contents tail _ (trim_wf tail cl h)).trans (handOut_contents tail _ (trim_wf tail cl h)).symm

theorem snapshot_shows_trim (tail : Nat) (cl : CL) (h : WF cl) :
    contents (snapshot tail cl).1 (snapshot tail cl).2 = contents (trim tail cl) (trim tail cl).ids :=
  handOut_contents tail _ (trim_wf tail cl h)

theorem snapshot_shows_lastN (tail : Nat) (cl : CL) (h : WF cl) (ht : 0 < tail) :
    contents (snapshot tail cl).1 (snapshot tail cl).2 = lastN tail (contents cl cl.ids) :=
  (snapshot_shows_trim tail cl h).trans (trim_contents tail cl h ht)

theorem snapshot_shows_all (tail : Nat) (cl : CL) (h : WF cl) (hc : changed tail cl = false) :
    contents (snapshot tail cl).1 (snapshot tail cl).2 = contents cl cl.ids := by
  have := snapshot_shows_trim tail cl h
  rwa [trim_of_unchanged hc] at this

theorem changed_iff (tail : Nat) (cl : CL) (h : WF cl) :
    changed tail cl = true ↔
      contents (snapshot tail cl).1 (snapshot tail cl).1.ids ≠ contents cl cl.ids := by
  constructor
  · intro hc heq
    obtain ⟨ht, hgt⟩ := of_decide_eq_true hc
    have := congrArg List.length heq  -- `min tail n` items afterwards, `n > tail` before
    rw [snapshot_list_eq_shown tail cl h, snapshot_shows_lastN tail cl h ht, lastN_length, ← countItems_contents] at this
    omega
  · intro hne
    exact Decidable.by_contra fun hc => hne <|
      (snapshot_list_eq_shown tail cl h).trans (snapshot_shows_all tail cl h (Bool.eq_false_iff.mpr hc))

/-- Items pushed by a history. -/
def pushedBy : List Op → List Int
  | [] => []
  | .push i :: ops => i :: pushedBy ops
  | .snap _ :: ops => pushedBy ops

theorem pushedBy_append (a b : List Op) : pushedBy (a ++ b) = pushedBy a ++ pushedBy b := by
  fun_induction pushedBy a
  case case1 => rfl
  case case2 i a ih => exact congrArg (i :: ·) ih  -- a push
  case case3 t a ih => exact ih  -- a snapshot

def snapsWith (tail : Nat) : List Op → Prop
  | [] => True
  | .push _ :: ops => snapsWith tail ops
  | .snap t :: ops => t = tail ∧ snapsWith tail ops

/-- Along a history whose snapshots all trim to `tail`, the last `tail` items of the list are the
    last `tail` items pushed: trimming commutes with appending (`lastN_lastN_append`), so no
    invariant about what the list holds in between is needed. -/
theorem steps_lastN (cz tail : Nat) (ht : 0 < tail) (ops : List Op) (hs : snapsWith tail ops) (cl : CL) (hw : WF cl) :
    lastN tail (contents (ops.foldl (step cz) cl) (ops.foldl (step cz) cl).ids) =
      lastN tail (contents cl cl.ids ++ pushedBy ops) := by
  fun_induction snapsWith tail ops generalizing cl
  case case1 => rw [pushedBy, List.append_nil]; rfl
  case case2 i ops ih =>  -- a push
    refine (ih hs (push cz cl i) (push_wf cz cl i hw)).trans ?_
    rw [push_contents cz cl i hw, List.append_assoc]
    rfl
  case case3 t ops ih =>  -- a snapshot: it trims to `tail`
    obtain ⟨rfl, hs'⟩ := hs
    refine (ih hs' (snapshot t cl).1 (snapshot_wf t cl hw)).trans ?_
    rw [snapshot_list_eq_shown t cl hw, snapshot_shows_lastN t cl hw ht, lastN_lastN_append]
    rfl

/-! ### Snapshots and revisions

The coordinator (src/core.go) bumps the minor revision whenever `Snapshot` reports `changed`.
`coRun` is that rule over a history of pushes and snapshots; it records, for every snapshot, the
revision it was taken under and the items it shows. (Every snapshot trims with `coRun`'s own `tail`: the
argument an op `.snap t` carries is not read.) -/

structure Rec where
  rev : Nat
  items : List Int

def coRun (cz tail : Nat) : CL → Nat → List Op → List Rec
  | _, _, [] => []
  | cl, rev, .push i :: ops => coRun cz tail (push cz cl i) rev ops
  | cl, rev, .snap _ :: ops =>
    let rev' := if changed tail cl then rev + 1 else rev
    let r := snapshot tail cl
    ⟨rev', contents r.1 r.2⟩ :: coRun cz tail r.1 rev' ops

/-- Revisions never go down, and under one revision the list only grows: every later snapshot of
    the same revision starts with what the list held. -/
theorem coRun_prefix (cz tail : Nat) (ops : List Op) {cl : CL} (rev : Nat) (h : WF cl) :
    ∀ x ∈ coRun cz tail cl rev ops, rev ≤ x.rev ∧ (x.rev = rev → contents cl cl.ids <+: x.items) := by
  fun_induction coRun cz tail cl rev ops
  case case1 => intro x hx; cases hx
  case case2 cl rev i ops ih =>  -- a push: the list grows
    intro x hx
    obtain ⟨hge, hpre⟩ := ih (push_wf cz cl i h) x hx
    rw [push_contents cz cl i h] at hpre
    exact ⟨hge, fun hr => (List.prefix_append _ _).trans (hpre hr)⟩
  case case3 cl rev t ops rev' r ih =>  -- a snapshot `r`, under revision `rev'`
    -- it shows what the list then holds, so its record and (by `ih`) every later one lies at or above `rev'` and,
    -- at `rev'`, extends the list as the snapshot left it; and `rev'` is `rev` only if nothing was trimmed
    have hlist := snapshot_list_eq_shown tail cl h
    intro x hx
    obtain ⟨hge, hpre⟩ := List.forall_mem_cons.mpr
      ⟨⟨Nat.le_refl _, fun _ => ⟨[], (List.append_nil _).trans hlist⟩⟩, ih (snapshot_wf tail cl h)⟩ x hx
    cases hc : changed tail cl with
    | true =>
      rw [show rev' = rev + 1 from if_pos hc] at hge
      exact ⟨Nat.le_of_succ_le hge, fun hr => absurd (hr ▸ hge) (Nat.not_succ_le_self rev)⟩
    | false =>
      rw [show rev' = rev from if_neg (hc ▸ Bool.false_ne_true)] at hge hpre
      rw [hlist, snapshot_shows_all tail cl h hc] at hpre
      exact ⟨hge, hpre⟩

theorem coRun_pairwise (cz tail : Nat) (ops : List Op) {cl : CL} (rev : Nat) (h : WF cl) :
    (coRun cz tail cl rev ops).Pairwise fun a b => a.rev = b.rev → a.items <+: b.items := by
  fun_induction coRun cz tail cl rev ops
  case case1 => exact List.Pairwise.nil
  case case2 cl rev i ops ih => exact ih (push_wf cz cl i h)  -- a push
  case case3 cl rev t ops rev' r ih =>  -- a snapshot: later records of its revision extend it
    have hw := snapshot_wf tail cl h
    refine List.pairwise_cons.mpr ⟨fun b hb hr => ?_, ih hw⟩
    show contents _ _ <+: b.items
    rw [← snapshot_list_eq_shown tail cl h]  -- the snapshot shows what the list holds after it
    exact (coRun_prefix cz tail ops _ hw b hb).2 hr.symm

end Fzf.ChunkHeap
