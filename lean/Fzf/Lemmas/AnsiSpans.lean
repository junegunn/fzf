import Fzf.Lemmas.AnsiLoop
/-
Well-formed colour spans (`SpansOk`): what every round of the loop of `extractColor` and its end keep.
-/
namespace Fzf.Ansi
open Fzf

/-- No span is inverted, every span ends by `rc` (the rune count reached so far), and none begins before
    an earlier one has ended. -/
def SpansOk (l : List Offset) (rc : Nat) : Prop :=
  (∀ o ∈ l, o.b ≤ o.e ∧ o.e ≤ rc) ∧ l.Pairwise (fun a b => a.e ≤ b.b)

theorem spansOk_mono {l : List Offset} {rc rc' : Nat} (h : SpansOk l rc) (hle : rc ≤ rc') : SpansOk l rc' :=
  ⟨fun o ho => ⟨(h.1 o ho).1, Nat.le_trans (h.1 o ho).2 hle⟩, h.2⟩

theorem spansOk_concat {l : List Offset} {o : Offset} {rc : Nat} :
    SpansOk (l ++ [o]) rc ↔ SpansOk l o.b ∧ o.b ≤ o.e ∧ o.e ≤ rc := by
  constructor
  · rintro ⟨hm, hp⟩
    obtain ⟨hp1, -, hp3⟩ := List.pairwise_append.mp hp
    have ho := hm o (by simp)
    exact ⟨⟨fun x hx => ⟨(hm x (List.mem_append_left _ hx)).1, hp3 x hx o (by simp)⟩, hp1⟩, ho⟩
  · rintro ⟨⟨hm, hp⟩, h1, h2⟩
    refine ⟨fun x hx => ?_, List.pairwise_append.mpr ⟨hp, List.pairwise_singleton _ _, fun a ha b hb => ?_⟩⟩
    · rcases List.mem_append.mp hx with hx | hx
      · have := hm x hx; omega
      · cases List.mem_singleton.mp hx; exact ⟨h1, h2⟩
    · cases List.mem_singleton.mp hb; exact (hm a ha).2

theorem setLastEnd_of_empty {offs : Array Offset} (h : offs.toList = []) (e : Nat) : setLastEnd offs e = offs :=
  if_pos (by rw [← Array.length_toList, h]; rfl)

theorem setLastEnd_toList_concat {offs : Array Offset} {init : List Offset} {last : Offset}
    (h : offs.toList = init ++ [last]) (e : Nat) : (setLastEnd offs e).toList = init ++ [{ last with e := e }] := by
  have hsz : offs.size = init.length + 1 := by rw [← Array.length_toList, h]; simp
  rw [setLastEnd, if_neg (by omega), Array.toList_modify, h, List.modify_eq_take_drop, hsz]
  simp  -- position `size - 1` splits `init ++ [last]` into `init` and `[last]`

theorem spansOk_setLastEnd {offs : Array Offset} {rc e' : Nat} (h : SpansOk offs.toList rc) (hle : rc ≤ e') :
    SpansOk (setLastEnd offs e').toList e' := by
  rcases List.eq_nil_or_concat offs.toList with h0 | ⟨init, last, hil⟩
  · rw [setLastEnd_of_empty h0]; exact spansOk_mono h hle
  · rw [List.concat_eq_append] at hil
    rw [setLastEnd_toList_concat hil]
    have ⟨hi, h1, h2⟩ := spansOk_concat.mp (hil ▸ h)
    exact spansOk_concat.mpr ⟨hi, Nat.le_trans h1 (Nat.le_trans h2 hle), Nat.le_refl _⟩

theorem spansOk_closeSpan {x : EX} {rc : Nat} (h : SpansOk x.offsets.toList x.runeCount) (hle : x.runeCount ≤ rc) :
    SpansOk (closeSpan x rc).toList rc := by
  unfold closeSpan
  split
  · exact spansOk_setLastEnd h hle
  · exact spansOk_mono h hle

theorem spansOk_start (st : Option State) :
    SpansOk (match st with | some st => #[⟨0, 0, st⟩] | none => #[] : Array Offset).toList 0 := by
  cases st <;> simp [SpansOk]

theorem spansOk_round {s : Bytes} {x x' : EX} {start stop : Nat} (h : SpansOk x.offsets.toList x.runeCount)
    (r : Round s x start stop x') : SpansOk x'.offsets.toList x'.runeCount := by
  have hclose := spansOk_closeSpan h r.runeCount
  obtain e | e | ⟨c, e⟩ := r.offsets <;> rw [e]
  · exact spansOk_mono h r.runeCount  -- the spans as before
  · exact hclose  -- the open span closed
  · rw [Array.toList_push]  -- and a new one opened where it ends
    exact spansOk_concat.mpr ⟨hclose, Nat.le_refl _, Nat.le_refl _⟩

theorem extractFinish_spans {s : Bytes} {x : EX} {offs : List Offset} (hl : SpansOk x.offsets.toList x.runeCount)
    (h : (extractFinish s x).2.1 = some offs) :
    (∀ o ∈ offs, o.b ≤ o.e) ∧ offs.Pairwise (fun a b => a.e ≤ b.b) := by
  have hfin := spansOk_closeSpan (rc := x.runeCount + Utf8.runeCount (s.extract x.prevIdx s.size).toList) hl
    (Nat.le_add_right _ _)
  unfold extractFinish at h
  by_cases hsz : x.offsets.size > 0
  · simp only [hsz, if_true, Option.some.injEq] at h
    exact h ▸ ⟨fun o ho => (hfin.1 o ho).1, hfin.2⟩
  · simp only [hsz, if_false] at h
    cases h

end Fzf.Ansi
