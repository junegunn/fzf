import Fzf.Spec.Reader
/-
The read loop against `splitRecords`: from any state that is not done, the loop ends with what was pushed so far
followed by the records of the leftover and the data still to come, however that is cut into reads
(`feed_fold_spec`); and `splitRecords` on records free of the delimiter.
-/
namespace Fzf.Reader
open Fzf

/-- The loop of `splitBuf` against the specification: the records completed so far, followed by
    what `splitRecords` makes of the open record and the unread bytes, never change. `tail` stands
    for the data of the reads still to come. -/
theorem splitBuf_go_invariant (delim : Nat) (cur rest leftover : Str) (acc : List Str) (whole : Str) (fuel : Nat)
    (hw : whole = cur.reverse ++ rest) (hf : rest.length < fuel) (tail : Str) :
    acc.reverse ++ splitRecords.go delim (leftover ++ cur.reverse).reverse (rest ++ tail) =
      (splitBuf.go delim true cur rest leftover acc whole fuel).1.reverse ++
        splitRecords.go delim (splitBuf.go delim true cur rest leftover acc whole fuel).2.1.reverse tail := by
  fun_induction splitBuf.go delim true cur rest leftover acc whole fuel with
  | case1 => exact absurd hf (Nat.not_lt_zero _)
  | case2 cur leftover acc whole fuel he =>  -- buffer exhausted, and it was empty
    rw [List.isEmpty_iff.mp he, List.append_nil] at hw
    rw [← hw, List.append_nil]
    rfl
  | case3 cur leftover acc whole fuel he =>  -- buffer exhausted: what was scanned joins the leftover
    rw [hw, List.append_nil]
    rfl
  | case4 cur leftover acc whole fuel rest' slice acc' ih =>  -- delimiter: a record is complete
    rw [← ih rfl (Nat.lt_of_succ_lt_succ hf), List.cons_append, splitRecords.go, if_pos rfl, List.reverse_reverse]
    -- `acc'` is `slice :: acc`: both sides are `acc.reverse`, the new record, the rest
    exact (List.append_cons ..).trans (congrArg (· ++ _) List.reverse_cons.symm)
  | case5 cur leftover acc whole fuel c rest' hc ih =>  -- any other byte joins `cur`
    rw [← ih (by rw [hw, List.reverse_cons, List.append_assoc]; rfl) (Nat.lt_of_succ_lt_succ hf), List.cons_append,
      splitRecords.go, if_neg hc, List.reverse_cons, ← List.append_assoc, List.reverse_concat]

theorem splitBuf_spec (delim : Nat) (leftover buf : Str) (acc : List Str) (tail : Str) :
    acc.reverse ++ splitRecords.go delim leftover.reverse (buf ++ tail) =
      (splitBuf delim true leftover buf acc).1.reverse ++
        splitRecords.go delim (splitBuf delim true leftover buf acc).2.1.reverse tail := by
  have := splitBuf_go_invariant delim [] buf leftover acc buf (buf.length + 1) rfl (Nat.lt_succ_self _) tail
  rwa [List.reverse_nil, List.append_nil] at this

theorem step_data (delim : Nat) (s : St) (r : Read) (hs : s.done = false) (hn : r.err = .nil) (hd : r.data ≠ []) :
    step delim s r = { leftover := (splitBuf delim true s.leftover r.data s.pushed).2.1,
                       pushed := (splitBuf delim true s.leftover r.data s.pushed).1, zeros := 0 } := by
  rw [step, if_neg (by rw [hs]; exact Bool.false_ne_true), if_neg (by rwa [List.isEmpty_iff]), hn]
  rfl

/-- What the loop ends with: what was pushed, then the records of the leftover followed by the data to come. -/
theorem feed_fold_spec (delim : Nat) (reads : List Read) (h : OSReads reads) (s : St) (hs : s.done = false) :
    finish (reads.foldl (step delim) s) =
      s.pushed.reverse ++ splitRecords.go delim s.leftover.reverse (reads.map (·.data)).flatten := by
  fun_induction OSReads reads generalizing s
  case case1 => exact h.elim
  case case2 r =>  -- the final (0, EOF): the loop ends, a non-empty leftover is the last record
    obtain ⟨data, err⟩ := r
    obtain ⟨rfl, rfl⟩ : data = [] ∧ err = .eof := h
    have : step delim s ⟨[], .eof⟩ = { s with done := true } := by
      rw [step, if_neg (by rw [hs]; exact Bool.false_ne_true)]
      rfl
    rw [List.foldl_cons, List.foldl_nil, this]
    unfold finish splitRecords.go
    cases s.leftover <;> simp
  case case3 r rest _ ih =>  -- a read with data is one `splitBuf`; the data of the later reads are its `tail`
    obtain ⟨hn, hd, hrest⟩ := h
    rw [List.foldl_cons, ih hrest _ (by rw [step_data delim s r hs hn hd]), step_data delim s r hs hn hd,
      List.map_cons, List.flatten_cons, ← splitBuf_spec]

theorem splitRecords_go_free (d : Nat) (r : Str) (hr : d ∉ r) (cur rest : Str) :
    splitRecords.go d cur (r ++ rest) = splitRecords.go d (r.reverse ++ cur) rest := by
  induction r generalizing cur with
  | nil => rfl
  | cons c cs ih =>
    rw [List.cons_append, splitRecords.go, if_neg (fun e : c = d => hr (e ▸ List.mem_cons_self)),
      ih (fun h => hr (List.mem_cons_of_mem _ h)), List.reverse_cons, List.append_assoc]
    rfl

theorem splitRecords_go_record (d : Nat) (r : Str) (hr : d ∉ r) (cur rest : Str) :
    splitRecords.go d cur (r ++ d :: rest) = (cur.reverse ++ r) :: splitRecords.go d [] rest := by
  rw [splitRecords_go_free d r hr, splitRecords.go, if_pos rfl, List.reverse_append, List.reverse_reverse]

theorem splitRecords_go_last (d : Nat) (r : Str) (hr : d ∉ r) (cur : Str) :
    splitRecords.go d cur r = if (cur.reverse ++ r).isEmpty then [] else [cur.reverse ++ r] := by
  have := splitRecords_go_free d r hr cur []
  rw [List.append_nil] at this
  rw [this, splitRecords.go, ← List.isEmpty_reverse, List.reverse_append, List.reverse_reverse]

end Fzf.Reader
