import Fzf.Model.History
import Fzf.Spec.History
import Fzf.Lemmas.Str
import Fzf.Lemmas.List
/-
The history file read back (`entries (render es) = es`), and the session as a slot editor: one
invariant `Holds` kept by every action, one simulation `navs_sim` along a run of actions. `view` is what a slot
shows and `slotsOf` all of them; `abs` is the session as a `Slots` value and `navOp` an action as an operation on it.
-/
namespace Fzf.History
open Fzf

theorem render_eq_join (es : List Str) (hne : es ≠ []) : render es = joinWith 10 es ++ [10] := by
  rw [render, ← joinWith_snoc_nil, joinWith_append 10 es _ hne (by simp)]; rfl

/-- A file written by fzf is read back as exactly the entries it holds: the first and the last
    entry stop `trim` from eating anything but the final newline. -/
theorem entries_render (es : List Str) (hall : ∀ e ∈ es, e ≠ [] ∧ 10 ∉ e) :
    entries (render es) = es := by
  by_cases hne : es = []
  · subst hne; rfl
  · have hh := hall _ (List.head_mem hne)
    have hl := hall _ (List.getLast_mem hne)
    rw [entries, render_eq_join es hne, trim,
      trimLeft_of_prefix 10 ((head_prefix_joinWith 10 es hne).trans (List.prefix_append _ _)) hh.1 hh.2,
      trimRight_concat_self,
      trimRight_of_suffix 10 (getLast_suffix_joinWith 10 es hne) hl.1 hl.2,
      splitOn_joinWith 10 es hne (fun e he => (hall e he).2), List.getLast?_eq_some_getLast hne]
    exact if_neg hl.1

/-- What slot `i` currently shows. -/
def view (h : Hist) (i : Nat) : Str :=
  match h.modified.lookup i with
  | some s => s
  | none => h.lines.getD i []

/-- What `current()` would return at each cursor position: `lines` with the copies in `modified` laid over it. -/
def slotsOf (h : Hist) : List Str := (List.range h.lines.length).map (view h)

/-- The session as the slot editor of Spec/History.lean sees it: the slots, the cursor, the input line. -/
def abs (s : Sess) : Slots := { slots := slotsOf s.h, cursor := s.h.cursor, input := s.input }

/-- `previous-history`, `next-history` or an edit of the input line as an operation of the slot editor
    (`C18_edits_recalled` spells it out as a `fun`). -/
def navOp : Nav → SlotOp
  | .prev => .prev | .next => .next | .edit t => .edit t

theorem slotsOf_length (h : Hist) : (slotsOf h).length = h.lines.length := by
  simp [slotsOf]

theorem slotsOf_getD {h : Hist} {i : Nat} (hi : i < h.lines.length) :
    (slotsOf h).getD i [] = view h i := by
  simp [slotsOf, List.getD, hi]

theorem current_eq_view {h : Hist} (hi : h.cursor < h.lines.length) :
    current h = some (view h h.cursor) := by
  unfold current view
  cases h.modified.lookup h.cursor with
  | some v => rfl
  | none => simp [List.getD, List.getElem?_eq_getElem hi]

theorem previous_eq (h : Hist) : previous h = { h with cursor := h.cursor - 1 } := by
  cases h with
  | mk _ _ _ c => cases c <;> rfl

theorem next_eq (h : Hist) : next h =
    { h with cursor := if h.cursor + 1 < h.lines.length then h.cursor + 1 else h.cursor } := by
  unfold next; split <;> rfl

theorem override_cursor (h : Hist) (s : Str) : (override h s).cursor = h.cursor := by
  simp only [override, apply_ite Hist.cursor, ite_self]

theorem override_length (h : Hist) (s : Str) : (override h s).lines.length = h.lines.length := by
  simp only [override, apply_ite Hist.lines, apply_ite List.length, List.length_set, ite_self]

/-- With the cursor on a slot, `override` writes the scratch slot in place and any other slot
    into `modified`. -/
theorem override_cases (h : Hist) (s : Str) (hc : h.cursor < h.lines.length) :
    (h.cursor + 1 = h.lines.length ∧ override h s = { h with lines := h.lines.set h.cursor s }) ∨
    (h.cursor + 1 < h.lines.length ∧
      override h s = { h with modified := (h.cursor, s) :: h.modified }) := by
  rcases Nat.eq_or_lt_of_le (Nat.succ_le_of_lt hc) with hl | hl
  · exact .inl ⟨hl, if_pos hl⟩
  · exact .inr ⟨hl, (if_neg (Nat.ne_of_lt hl)).trans (if_pos hl)⟩

/-- `h` holds the entries `es` under the cap `m`: they are all of `lines` but the scratch slot at
    the end, the cursor is on a slot, and edited copies exist only for stored entries. -/
structure Holds (es : List Str) (m : Nat) (h : Hist) : Prop where
  lines_eq : h.lines.dropLast = es
  cap : h.maxSize = m
  cur : h.cursor < h.lines.length
  mod : ∀ i, h.lines.length ≤ i + 1 → h.modified.lookup i = none

theorem Holds.length_lines {es m h} (hh : Holds es m h) : h.lines.length = es.length + 1 := by
  rw [← hh.lines_eq, List.length_dropLast, Nat.sub_add_cancel (Nat.zero_lt_of_lt hh.cur)]

theorem load_holds (d : Str) (m : Nat) : Holds (entries d) m (load d m) := by
  have hne := splitOn_ne_nil 10 (trim 10 d)
  unfold load entries
  generalize splitOn 10 (trim 10 d) = ls at hne ⊢
  by_cases h : ls.getLast?.getD [] = []
  · simp only [h, ne_eq, not_true_eq_false, if_false, if_true]
    exact ⟨rfl, rfl, Nat.sub_lt (List.length_pos_iff.mpr hne) Nat.one_pos, fun _ _ => rfl⟩
  · simp only [h, ne_eq, not_false_eq_true, if_true, if_false]
    exact ⟨List.dropLast_concat, rfl, by simp, fun _ _ => rfl⟩

theorem append_file {es m h} (hh : Holds es m h) {q : Str} (hq : q ≠ []) :
    (append h q).2 = some (render (lastN m (es ++ [q]))) := by
  simp [append, hq, joinWith_snoc_nil 10, render, hh.lines_eq, hh.cap]

theorem override_holds {es m h} (hh : Holds es m h) (s : Str) : Holds es m (override h s) := by
  rcases override_cases h s hh.cur with ⟨hl, e⟩ | ⟨hl, e⟩ <;> rw [e]
  · exact ⟨(List.dropLast_set_last s (Nat.le_of_eq hl.symm)).trans hh.lines_eq, hh.cap,
      Nat.lt_of_lt_of_eq hh.cur List.length_set.symm,
      fun i hi => hh.mod i (Nat.le_trans (Nat.le_of_eq List.length_set.symm) hi)⟩
  · exact { hh with mod := fun i hi =>
      (List.lookup_cons_ne (Nat.ne_of_gt (Nat.lt_of_succ_lt_succ (Nat.lt_of_lt_of_le hl hi)))).trans (hh.mod i hi) }

theorem override_view {es m h} (hh : Holds es m h) (s : Str) (i : Nat) :
    view (override h s) i = if i = h.cursor then s else view h i := by
  rcases override_cases h s hh.cur with ⟨hl, e⟩ | ⟨hl, e⟩
  · -- the scratch slot; at the cursor it is read from `lines` because `modified` has nothing for it (the invariant)
    rw [e]; unfold view
    by_cases hi : i = h.cursor
    · simp [hi, hh.mod h.cursor (Nat.le_of_eq hl.symm), hh.cur]
    · simp [hi, List.getElem?_set_ne (Ne.symm hi)]
  · -- a stored entry
    rw [e]; unfold view
    by_cases hi : i = h.cursor
    · simp [hi]
    · simp only [List.lookup_cons_ne hi, if_neg hi]

theorem slotsOf_override {es m h} (hh : Holds es m h) (s : Str) :
    slotsOf (override h s) = (slotsOf h).set h.cursor s := by
  apply List.ext_getElem
  · simp [slotsOf, override_length]
  · intro n h1 h2
    simp [slotsOf, List.getElem_set, override_view hh, eq_comm]

/-- What `previous-history` and `next-history` share: save the input line in the slot under the
    cursor, put the cursor on a slot `c`, show that slot. -/
theorem move_sim {es m} (s : Sess) (hh : Holds es m s.h) (c : Nat) (hc : c < s.h.lines.length) :
    let h' := { override s.h s.input with cursor := c }
    let sl := (slotsOf s.h).set s.h.cursor s.input
    Holds es m h' ∧ abs { h := h', input := (current h').getD [] } =
      { slots := sl, cursor := c, input := sl.getD c [] } := by
  have ho := override_holds hh s.input
  have hc' : c < (override s.h s.input).lines.length := by rw [override_length]; exact hc
  refine ⟨{ ho with cur := hc' }, ?_⟩
  rw [current_eq_view hc', ← slotsOf_override hh, slotsOf_getD hc']
  rfl  -- `h'` differs from `override s.h s.input` only in the cursor, which `view` and `slotsOf` ignore

theorem navStep_sim {es m} (s : Sess) (n : Nav) (hh : Holds es m s.h) :
    Holds es m (navStep s n).h ∧ abs (navStep s n) = (abs s).step (navOp n) := by
  cases n with
  | edit t => exact ⟨hh, rfl⟩
  | prev =>
    simp only [navStep, previous_eq, override_cursor]
    exact move_sim s hh _ (Nat.lt_of_le_of_lt (Nat.sub_le _ _) hh.cur)
  | next =>
    have hl : (override s.h s.input).lines.length =
        ((slotsOf s.h).set s.h.cursor s.input).length := by
      rw [override_length, List.length_set, slotsOf_length]
    -- `next` compares with the length of `lines`, `Slots.step` with that of the slot list
    simp only [navStep, next_eq, override_cursor, hl]
    refine move_sim s hh _ ?_
    rw [← hl, override_length]
    split
    · assumption  -- the test of `next` succeeded
    · exact hh.cur

theorem navs_sim {es m} (navs : List Nav) (h : Hist) (q : Str) (hh : Holds es m h) :
    Holds es m (navs.foldl navStep { h := h, input := q }).h ∧
      abs (navs.foldl navStep { h := h, input := q }) =
        (navs.map navOp).foldl Slots.step (abs { h := h, input := q }) := by
  induction navs generalizing h q with
  | nil => exact ⟨hh, rfl⟩
  | cons n ns ih =>
    obtain ⟨h1, h2⟩ := navStep_sim { h := h, input := q } n hh
    simp only [List.foldl_cons, List.map_cons, ← h2]
    exact ih _ _ h1

end Fzf.History
