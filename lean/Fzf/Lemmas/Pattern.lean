import Fzf.Model.Pattern
/-
How a pattern is evaluated on a tokenised line, bottom up: a term is tried on the tokens (the selected
fields) in order — a first-match search, stated over an arbitrary match function —, an OR-group is
satisfied by one term of the right polarity, the pattern by all its groups.
-/
namespace Fzf.Pattern
open Fzf Fzf.Algo

/-- The match `r` found in `tk`, as `iter` reports it. -/
def Tok.shift (tk : Tok) (r : Res) : Int × Int × Int × Option (List Nat) :=
  (r.start + tk.prefixLength, r.stop + tk.prefixLength, r.score, r.pos.map (·.map (· + tk.prefixLength)))

/-- `iter` over an arbitrary match function. -/
def firstHit (f : Tok → M Res) : List Tok → M (Option (Int × Int × Int × Option (List Nat)))
  | [] => .ok none
  | tk :: toks =>
    match f tk with
    | .error e => .error e
    | .ok r => if r.start ≥ 0 then .ok (some (tk.shift r)) else firstHit f toks

theorem iter_eq_firstHit (cfg : Cfg) (v2 : Bool) (typ : TermType) (toks : List Tok) (cs norm fwd : Bool) (p : Array Nat)
    (wp : Bool) (cap : Nat) :
    iter cfg v2 typ toks cs norm fwd p wp cap =
      firstHit (fun tk => runTerm cfg v2 typ cs norm fwd tk.text tk.isBytes p wp cap) toks := by
  unfold iter
  induction toks with
  | nil => rfl
  | cons tk toks ih =>
    rw [List.forIn_cons, firstHit]
    cases runTerm cfg v2 typ cs norm fwd tk.text tk.isBytes p wp cap with
    | error e => rfl
    | ok r =>
      by_cases hs : r.start ≥ 0
      · simp only [bind, Except.bind, if_pos hs]; rfl
      · simp only [bind, Except.bind, if_neg hs, ← ih]; rfl

theorem firstHit_eq_none (f : Tok → M Res) (toks : List Tok) (h : firstHit f toks = .ok none) :
    ∀ t ∈ toks, ∃ r, f t = .ok r ∧ r.start < 0 := by
  -- the cases of `firstHit`: no tokens; `f` fails on the first; a match in it; none in it
  fun_induction firstHit f toks
  case case1 => nofun
  case case2 | case3 => cases h
  case case4 tk toks r hr hs ih => exact List.forall_mem_cons.mpr ⟨⟨r, hr, by omega⟩, ih h⟩

/-- What is reported is the first match: no token before `tk` has one, and `tk`'s is shifted by its offset. -/
theorem firstHit_eq_some (f : Tok → M Res) (toks : List Tok) (res : Int × Int × Int × Option (List Nat))
    (h : firstHit f toks = .ok (some res)) :
    ∃ pre tk post r, toks = pre ++ tk :: post ∧ f tk = .ok r ∧ 0 ≤ r.start ∧ res = tk.shift r ∧
      ∀ t ∈ pre, ∃ r', f t = .ok r' ∧ r'.start < 0 := by
  fun_induction firstHit f toks  -- cases as in `firstHit_eq_none`
  case case1 | case2 => cases h
  case case3 tk toks r hr hs => cases h; exact ⟨[], tk, toks, r, rfl, hr, hs, rfl, nofun⟩
  case case4 tk toks r hr hs ih =>
    obtain ⟨pre, tk', post, r', rfl, hr', hs', hres, hpre⟩ := ih h
    exact ⟨tk :: pre, tk', post, r', rfl, hr', hs', hres, List.forall_mem_cons.mpr ⟨⟨r, hr, by omega⟩, hpre⟩⟩

theorem firstHit_decides (f : Tok → M Res) (D : Tok → Prop) (toks : List Tok)
    (h : ∀ t ∈ toks, ∃ r, f t = .ok r ∧ (0 ≤ r.start ↔ D t)) :
    ∃ x, firstHit f toks = .ok x ∧ (x.isSome = true ↔ ∃ t ∈ toks, D t) := by
  induction toks with
  | nil => exact ⟨none, rfl, nofun, nofun⟩
  | cons tk toks ih =>
    obtain ⟨⟨r, hr, hD⟩, h'⟩ := List.forall_mem_cons.mp h
    rw [firstHit, hr]
    simp only [List.mem_cons, or_and_right, exists_or, exists_eq_left]
    by_cases hs : r.start ≥ 0
    · exact ⟨_, if_pos hs, iff_of_true rfl (.inl (hD.mp hs))⟩
    · obtain ⟨x, hx, hiff⟩ := ih h'
      exact ⟨x, (if_neg hs).trans hx, hiff.trans (or_iff_right (mt hD.mpr hs)).symm⟩

/-- Does the term match (as the match function reports)? -/
def hits (run : Term → M (Option Hit)) (t : Term) : Bool :=
  match run t with
  | .ok (some _) => true
  | _ => false

theorem setMatch_isSome (run : Term → M (Option Hit)) (hrun : ∀ t, ∃ r, run t = .ok r) (ts : TermSet) :
    ∃ r, setMatch run ts = .ok r ∧ r.isSome = ts.any fun t => t.inv != hits run t := by
  induction ts with
  | nil => exact ⟨none, rfl, rfl⟩
  | cons t ts ih =>
    obtain ⟨r, hr, hiff⟩ := ih
    obtain ⟨rt, hrt⟩ := hrun t
    have hh : hits run t = rt.isSome := by unfold hits; rw [hrt]; cases rt <;> rfl
    rw [List.any_cons, hh, ← hiff, setMatch, hrt]
    -- no match / match, each for a plain / negated term: a plain term that does not match and a negated one
    -- that does leave the group to the rest, the other two satisfy it
    cases rt <;> cases t.inv
    · exact ⟨r, hr, rfl⟩
    · exact ⟨some (r.getD Hit.zero), by rw [hr]; rfl, rfl⟩
    · exact ⟨_, rfl, rfl⟩
    · exact ⟨r, hr, rfl⟩

/-- One offset per satisfied group. -/
theorem setsMatch_length (run : Term → M (Option Hit)) (hrun : ∀ t, ∃ r, run t = .ok r) (withPos : Bool)
    (sets : List TermSet) :
    ∃ r, setsMatch run withPos sets = .ok r ∧
      r.1.length = sets.countP fun ts => ts.any fun t => t.inv != hits run t := by
  induction sets with
  | nil => exact ⟨([], 0, []), rfl, rfl⟩
  | cons ts rest ih =>
    obtain ⟨⟨offs, total, allPos⟩, hr, hlen⟩ := ih
    obtain ⟨rs, hrs, hsat⟩ := setMatch_isSome run hrun ts
    rw [List.countP_cons, ← hsat, ← hlen, setsMatch, hrs, hr]
    cases rs <;> exact ⟨_, rfl, rfl⟩  -- a satisfied group adds its offset, an unsatisfied one nothing

end Fzf.Pattern
