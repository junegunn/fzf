import Fzf.Spec.Query
import Fzf.Lemmas.Str
import Fzf.Lemmas.List
/-
C01, `parse_render`: one rendered term is read back as its documented term (`parseToken_atom`); the `|` state
machine folds the tokens of a query into its groups (`fold_query`); `render` joins those tokens with spaces
(`render_flat`), and reading escapes and splitting gives them back (`split_render`): a rendered term is its syntax
`rawOver` with the spaces escaped (`renderAtom_eq`), its token the same with the spaces as tabs (`atomToken`), and
`split_escaped` is the round trip for any list of words. `isSyn` picks out the syntax
characters `! $ ' ^ |`; `CfgOk` asks of the case and accent tables that lower-casing makes none of them out of a
non-ASCII character and normalising changes none (both stand in C01's statements). `EdgeOk` holds of the texts that
`classify` reads back unchanged, a condition on the first and the last character; `Between` of the parser states
between two groups.
-/
namespace Fzf.Query
open Fzf Fzf.Algo Fzf.Pattern

def isSyn (c : Nat) : Bool := c == 33 || c == 36 || c == 39 || c == 94 || c == 124

theorem isSyn_iff (s : Nat) : isSyn s = true ↔ s = 33 ∨ s = 36 ∨ s = 39 ∨ s = 94 ∨ s = 124 := by
  simp only [isSyn, Bool.or_eq_true, beq_iff_eq, or_assoc]

theorem isSyn_ne {s : Nat} (hs : isSyn s = true) (c : Nat) (hc : isSyn c = false) : s ≠ c :=
  fun e => by rw [e, hc] at hs; cases hs

/-! ### One token -/

/-- The three recognition steps of `parseTerms` on the (case-folded) text of one token:
    negation, `$`, then quotes / `^`. -/
def classify (fuzzy : Bool) (text : Str) : Bool × TermType × Str :=
  let typ := if !fuzzy then TermType.exact else TermType.fuzzy
  let (inv, typ, text) := if hasPrefix text 33 then (true, TermType.exact, text.drop 1) else (false, typ, text)
  let (typ, text) := if text != [36] && hasSuffix text 36 then (TermType.suffix, text.dropLast) else (typ, text)
  let (typ, text) :=
    if text.length > 2 && hasPrefix text 39 && hasSuffix text 39 then (TermType.boundary, (text.drop 1).dropLast)
    else if hasPrefix text 39 then
      ((if fuzzy && !inv then TermType.exact else TermType.fuzzy), text.drop 1)
    else if hasPrefix text 94 then
      ((if typ == .suffix then TermType.equal else TermType.prefix), text.drop 1)
    else (typ, text)
  (inv, typ, text)

/-- Adding a term to the parser state: after a `|` it joins the current group, otherwise it closes
    that group and starts the next. -/
def pushTerm (st : PState) (t : Term) : PState :=
  let (sets, set) := if st.switchSet then (st.set.reverse :: st.sets, []) else (st.sets, st.set)
  { sets := sets, set := t :: set, switchSet := true, afterBar := false }

/-- `parseToken` with its recognition steps as `classify` and its push as `pushTerm`. -/
theorem parseToken_classify (cfg : Cfg) (fuzzy : Bool) (caseMode : CaseMode) (normalize : Bool) (st : PState) (token : Str) :
    parseToken cfg fuzzy caseMode normalize st token =
      (let text := tabToSpace token
       let lowerText := lowerStr cfg text
       let caseSensitive := caseMode == .respect || (caseMode == .smart && text != lowerText)
       let normalizeTerm := normalize && lowerText == normStr cfg lowerText
       let text := if !caseSensitive then lowerText else text
       if !st.set.isEmpty && !st.afterBar && text == [124] then
         { st with switchSet := false, afterBar := true }
       else
         match classify fuzzy text with
         | (inv, typ, body) =>
           if body.length > 0 then
             pushTerm st ⟨typ, inv, if normalizeTerm then normStr cfg body else body, caseSensitive, normalizeTerm⟩
           else { st with afterBar := false }) := by
  unfold parseToken classify pushTerm
  with_reducible rfl  -- the two sides are the same text once the helpers are unfolded; plain `rfl` would evaluate

theorem parseToken_bar (cfg : Cfg) (fuzzy : Bool) (cm : CaseMode) (nz : Bool) (st : PState)
    (hs : st.set ≠ []) (ha : st.afterBar = false) :
    parseToken cfg fuzzy cm nz st [124] = { st with switchSet := false, afterBar := true } := by
  rw [parseToken_classify]
  have e0 : tabToSpace [124] = [124] := rfl
  have e1 : lowerStr cfg [124] = [124] := rfl
  simp only [e0, e1, ite_self, List.isEmpty_eq_false_iff.mpr hs, ha]
  rfl

/-- What the syntax puts before / after the text of a term. -/
def opener (fuzzy : Bool) (kind : TermType) (inv : Bool) : Str :=
  (if inv then [33] else []) ++ match kind with
    | .fuzzy => if !fuzzy || inv then [39] else []
    | .exact => if fuzzy && !inv then [39] else []
    | .boundary => [39] | .prefix => [94] | .suffix => [] | .equal => [94]

def closer : TermType → Str
  | .boundary => [39] | .suffix => [36] | .equal => [36] | _ => []

/-- The unescaped concrete syntax of one term over a given text. -/
def rawOver (fuzzy : Bool) (kind : TermType) (inv : Bool) (t : Str) : Str :=
  opener fuzzy kind inv ++ t ++ closer kind

theorem opener_syn {fuzzy : Bool} {kind : TermType} {inv : Bool} : ∀ c ∈ opener fuzzy kind inv, isSyn c = true := by
  cases kind <;> cases inv <;> cases fuzzy <;> decide

theorem closer_syn {kind : TermType} : ∀ c ∈ closer kind, isSyn c = true := by
  cases kind <;> decide

theorem map_rawOver (f : Nat → Nat) (hf : ∀ s, isSyn s = true → f s = s) (fuzzy : Bool) (kind : TermType) (inv : Bool) (t : Str) :
    (rawOver fuzzy kind inv t).map f = rawOver fuzzy kind inv (t.map f) := by
  have ho : (opener fuzzy kind inv).map f = opener fuzzy kind inv :=
    List.map_eq_self f fun c h => hf c (opener_syn c h)
  have hc : (closer kind).map f = closer kind :=
    List.map_eq_self f fun c h => hf c (closer_syn c h)
  unfold rawOver
  rw [List.map_append, List.map_append, ho, hc]

theorem rawOver_beq (fuzzy : Bool) (kind : TermType) (inv : Bool) (t1 t2 : Str) :
    (rawOver fuzzy kind inv t1 == rawOver fuzzy kind inv t2) = (t1 == t2) := by
  rw [Bool.eq_iff_iff, beq_iff_eq, beq_iff_eq, rawOver, rawOver, List.append_left_inj, List.append_right_inj]

theorem rawOver_bne (fuzzy : Bool) (kind : TermType) (inv : Bool) (t1 t2 : Str) :
    (rawOver fuzzy kind inv t1 != rawOver fuzzy kind inv t2) = (t1 != t2) :=
  congrArg not (rawOver_beq fuzzy kind inv t1 t2)

theorem rawOver_ne_nil {fuzzy : Bool} {kind : TermType} {inv : Bool} {t : Str} (hne : t ≠ []) :
    rawOver fuzzy kind inv t ≠ [] :=
  List.append_ne_nil_of_left_ne_nil (List.append_ne_nil_of_right_ne_nil _ hne) _

theorem rawOver_ne_bar (fuzzy : Bool) (kind : TermType) (inv : Bool) (t : Str) (hne : t ≠ []) (hb : t ≠ [124]) :
    rawOver fuzzy kind inv t ≠ [124] := by
  intro e
  simp only [rawOver, List.append_eq_singleton_iff, List.append_eq_nil_iff] at e
  -- the single `|` is the closer, the text or the opener, the other two empty: the text is empty or `|`
  rcases e with ⟨⟨_, h⟩, _⟩ | ⟨⟨_, h⟩ | ⟨_, h⟩, _⟩
  · exact hne h
  · exact hb h
  · exact hne h

/-- A rendered term ends with its closer, a syntax character, or else as its text does. -/
theorem rawOver_last {fuzzy : Bool} {kind : TermType} {inv : Bool} {t : Str} {c : Nat} (hc : isSyn c = false) (hne : t ≠ [])
    (hl : t.getLast? ≠ some c) : (rawOver fuzzy kind inv t).getLast? ≠ some c := by
  unfold rawOver
  rw [List.getLast?_append, List.getLast?_append]
  cases hcl : (closer kind).getLast? with
  | some d => exact fun e => isSyn_ne (closer_syn d (List.mem_of_getLast? hcl)) c hc (Option.some.inj e)
  | none =>
    rw [List.getLast?_eq_some_getLast hne] at hl ⊢
    exact hl

/-- Texts that recognition reads back unchanged: non-empty, the first character none of `! ' ^`,
    the last neither `$` nor `'`, and not `|` alone. -/
structure EdgeOk (t : Str) : Prop where
  ne_nil : t ≠ []
  head : t.head? ≠ some 33 ∧ t.head? ≠ some 39 ∧ t.head? ≠ some 94
  last : t.getLast? ≠ some 36 ∧ t.getLast? ≠ some 39
  ne_bar : t ≠ [124]

/- `getLast?` and `dropLast` of a text of two characters or more, in the shape `classify_rawOver` meets them
   (first character split off, last character known). -/
theorem getLast?_cons_snoc (x : Nat) (m : List Nat) (c : Nat) : (x :: (m ++ [c])).getLast? = some c :=
  List.getLast?_concat (l := x :: m)

theorem dropLast_cons_snoc (x : Nat) (m : List Nat) (c : Nat) : (x :: (m ++ [c])).dropLast = x :: m :=
  List.dropLast_concat (l₁ := x :: m)

theorem len_snoc (x : Nat) (m : List Nat) (c : Nat) : (x :: (m ++ [c])).length = m.length + 2 := by simp

theorem classify_rawOver (fuzzy : Bool) (kind : TermType) (inv : Bool) (t : Str) (h : EdgeOk t) :
    classify fuzzy (rawOver fuzzy kind inv t) = (inv, kind, t) := by
  obtain ⟨hne, ⟨h1, h2, h3⟩, ⟨h4, h5⟩, _⟩ := h
  obtain ⟨x, m, rfl⟩ := List.exists_cons_of_ne_nil hne
  obtain ⟨l, hl⟩ : ∃ l, (x :: m).getLast? = some l := ⟨_, List.getLast?_eq_some_getLast hne⟩
  have e1 : (x == 33) = false := by simpa using h1
  have e2 : (x == 39) = false := by simpa using h2
  have e3 : (x == 94) = false := by simpa using h3
  have e4 : (l == 36) = false := by simpa [hl] using h4
  have e5 : (l == 39) = false := by simpa [hl] using h5
  -- Each of the three tests of `classify` looks at the first or the last character only; the text does not begin
  -- with `! ' ^` (`e1`–`e3`) nor end with `$ '` (`e4`, `e5`), so each test sees the opener's or the closer's
  -- character and nothing else. Six kinds under (negated, either mode), (plain, fuzzy), (plain, --exact):
  -- a negated term is read the same way in both modes.
  match inv, fuzzy with
  | true, _ | false, true | false, false =>
    cases kind <;>
      simp [classify, rawOver, opener, closer, hasPrefix, hasSuffix, hl, e1, e2, e3, e4, e5, getLast?_cons_snoc,
        dropLast_cons_snoc]

theorem wfText_iff {t : Str} : wfText t = true ↔
    t ≠ [] ∧ 9 ∉ t ∧ (t.head? ≠ some 33 ∧ t.head? ≠ some 39 ∧ t.head? ≠ some 94) ∧
      (t.getLast? ≠ some 36 ∧ t.getLast? ≠ some 39 ∧ t.getLast? ≠ some 92) ∧ t ≠ [124] := by
  simp only [wfText, Bool.and_eq_true, Bool.not_eq_true', Bool.or_eq_false_iff, beq_eq_false_iff_ne, bne_iff_ne,
    List.isEmpty_eq_false_iff, List.contains_eq_mem, decide_eq_false_iff_not, and_assoc]

theorem wf_iff (q : Query) : wf q = true ↔ q ≠ [] ∧ ∀ s ∈ q, s ≠ [] ∧ ∀ a ∈ s, wfText a.text = true := by
  simp only [wf, Bool.and_eq_true, Bool.not_eq_true', List.all_eq_true, List.isEmpty_eq_false_iff]

theorem edgeOk_of_wf {t : Str} (hw : wfText t = true) : EdgeOk t :=
  have ⟨hne, _, hhead, ⟨b1, b2, _⟩, hbar⟩ := wfText_iff.mp hw
  ⟨hne, hhead, ⟨b1, b2⟩, hbar⟩

/-- `f` hits a syntax character only from itself: true of `toLower`. -/
theorem EdgeOk.map (f : Nat → Nat) (hf : ∀ c s, isSyn s = true → f c = s → c = s) {t : Str} (h : EdgeOk t) :
    EdgeOk (t.map f) := by
  obtain ⟨hne, ⟨a1, a2, a3⟩, ⟨b1, b2⟩, hbar⟩ := h
  have ne_map : ∀ {s}, isSyn s = true → ∀ {o : Option Nat}, o ≠ some s → o.map f ≠ some s := fun hs _ ho e => by
    obtain ⟨a, rfl, ha⟩ := Option.map_eq_some_iff.mp e
    exact ho (congrArg some (hf a _ hs ha))
  refine ⟨by simpa using hne, ?_, ?_, fun e => ?_⟩
  · rw [List.head?_map]; exact ⟨ne_map (by decide) a1, ne_map (by decide) a2, ne_map (by decide) a3⟩
  · rw [List.getLast?_map]; exact ⟨ne_map (by decide) b1, ne_map (by decide) b2⟩
  · obtain ⟨c, rfl, hc⟩ := List.map_eq_singleton_iff.mp e
    exact hbar (by rw [hf c 124 (by decide) hc])

/-- What the theorem needs of the Unicode tables: lower-casing a non-ASCII character never yields
    one of the syntax characters `! $ ' ^ |`, and accent normalisation leaves those alone. (True
    of Go's tables: `unicode.ToLower` maps non-ASCII characters to letters, `normalizeRune` only
    touches U+00C0 and above.) -/
def CfgOk (cfg : Cfg) : Prop :=
  (∀ c, c > 127 → isSyn (cfg.U.lower c) = false) ∧ (∀ c, isSyn c = true → cfg.norm c = c)

theorem toLower_syn (cfg : Cfg) (hc : CfgOk cfg) (c s : Nat) (hs : isSyn s = true) : toLower cfg c = s ↔ c = s := by
  have hs' := (isSyn_iff s).mp hs
  unfold toLower
  split
  · split
    · omega -- no syntax character among the letters
    · exact Iff.rfl
  · have hl := hc.1 c (by omega)
    constructor
    · intro h; rw [h, hs] at hl; cases hl
    · intro h; omega

/-- An escaped space reaches `parseToken` as a tab. -/
def sp2tab (c : Nat) : Nat := if c = 32 then 9 else c

theorem sp2tab_syn (s : Nat) (hs : isSyn s = true) : sp2tab s = s :=
  if_neg (isSyn_ne hs 32 rfl)

theorem tabToSpace_sp2tab (t : Str) (h : 9 ∉ t) : tabToSpace (t.map sp2tab) = t := by
  rw [tabToSpace, List.map_map]
  refine List.map_eq_self _ fun c hc => ?_
  have : c ≠ 9 := fun e => h (e ▸ hc)
  by_cases h32 : c = 32 <;> simp [sp2tab, h32, this]

theorem tabToSpace_rawOver {fuzzy : Bool} {kind : TermType} {inv : Bool} {t : Str} (h : 9 ∉ t) :
    tabToSpace ((rawOver fuzzy kind inv t).map sp2tab) = rawOver fuzzy kind inv t := by
  have hf : ∀ s, isSyn s = true → (if s = 9 then 32 else s) = s := fun s hs => if_neg (isSyn_ne hs 9 rfl)
  rw [map_rawOver sp2tab sp2tab_syn]
  unfold tabToSpace
  rw [map_rawOver _ hf]
  exact congrArg _ (tabToSpace_sp2tab t h)

/-- The token of one rendered atom, as `parseTerms` sees it after splitting. -/
def atomToken (fuzzy : Bool) (a : Atom) : Str := (rawOver fuzzy a.kind a.inv a.text).map sp2tab

/-- **One rendered term is read back as the documented term**, whatever the parser state. -/
theorem parseToken_atom (cfg : Cfg) (hc : CfgOk cfg) (fuzzy : Bool) (cm : CaseMode) (nz : Bool) (st : PState)
    (a : Atom) (hw : wfText a.text = true) :
    parseToken cfg fuzzy cm nz st (atomToken fuzzy a) = pushTerm st (compile cfg cm nz a) := by
  -- first, since inside the long right-hand side of `parseToken_classify` the kernel is slow to check this step
  unfold compile atomToken
  rw [parseToken_classify]
  have e0 : tabToSpace ((rawOver fuzzy a.kind a.inv a.text).map sp2tab) = rawOver fuzzy a.kind a.inv a.text :=
    tabToSpace_rawOver (wfText_iff.mp hw).2.1
  -- lowering and normalising leave the syntax alone, so the flags the parser computes from the token are those
  -- `compile` computes from the text
  have e1 : ∀ X, lowerStr cfg (rawOver fuzzy a.kind a.inv X) = rawOver fuzzy a.kind a.inv (lowerStr cfg X) :=
    map_rawOver (toLower cfg) (fun s hs => (toLower_syn cfg hc s s hs).mpr rfl) _ _ _
  have e2 : ∀ X, normStr cfg (rawOver fuzzy a.kind a.inv X) = rawOver fuzzy a.kind a.inv (normStr cfg X) :=
    map_rawOver cfg.norm hc.2 _ _ _
  simp only [e0, e1, e2, rawOver_bne, rawOver_beq]
  generalize (cm == CaseMode.respect || cm == CaseMode.smart && a.text != lowerStr cfg a.text) = cs
  -- the text the recognition steps see
  have hT : (if (!cs) = true then rawOver fuzzy a.kind a.inv (lowerStr cfg a.text) else rawOver fuzzy a.kind a.inv a.text)
      = rawOver fuzzy a.kind a.inv (if cs then a.text else lowerStr cfg a.text) := by
    cases cs <;> rfl
  have hE : EdgeOk (if cs then a.text else lowerStr cfg a.text) := by
    cases cs
    · exact (edgeOk_of_wf hw).map _ fun c s hs => (toLower_syn cfg hc c s hs).mp
    · exact edgeOk_of_wf hw
  rw [hT]
  generalize (if cs then a.text else lowerStr cfg a.text) = T at hE ⊢
  rw [beq_false_of_ne (rawOver_ne_bar fuzzy a.kind a.inv T hE.ne_nil hE.ne_bar), classify_rawOver fuzzy a.kind a.inv T hE]
  simp only [Bool.and_false, Bool.false_eq_true, if_false, List.length_pos_iff.mpr hE.ne_nil, if_true]

/-! ### The tokens of a query and the `|` state machine -/

/-- The tokens of one OR-group: those of its atoms (`g`), separated by `|`. -/
def barSep (g : Atom → Str) : List Atom → List Str
  | [] => []
  | a :: rest => g a :: rest.flatMap fun b => [[124], g b]

def tokens (g : Atom → Str) (q : Query) : List Str := q.flatMap (barSep g)

theorem barSep_eq_nil {g : Atom → Str} {s : List Atom} : barSep g s = [] ↔ s = [] := by
  cases s <;> simp [barSep]

theorem tokens_map (f : Str → Str) (hf : f [124] = [124]) (g : Atom → Str) (q : Query) :
    (tokens g q).map f = tokens (fun a => f (g a)) q := by
  unfold tokens
  rw [List.map_flatMap]
  congr 1
  funext s
  cases s with
  | nil => rfl
  | cons a rest => simp only [barSep, List.map_cons, List.map_flatMap, List.map_nil, hf]

theorem forall_tokens {g : Atom → Str} {q : Query} {P : Str → Prop} (hbar : P [124]) (h : ∀ s ∈ q, ∀ a ∈ s, P (g a)) :
    ∀ t ∈ tokens g q, P t := by
  intro t ht
  obtain ⟨s, hs, hts⟩ := List.mem_flatMap.mp ht
  cases s with
  | nil => cases hts
  | cons a rest =>
    simp only [barSep, List.mem_cons, List.mem_flatMap, List.not_mem_nil, or_false] at hts
    rcases hts with rfl | ⟨b, hb, rfl | rfl⟩
    · exact h _ hs a List.mem_cons_self
    · exact hbar
    · exact h _ hs b (List.mem_cons_of_mem _ hb)

/-- Further atoms of a group: each `| atom` prepends its term to the current (non-empty) group. -/
theorem fold_more (cfg : Cfg) (hc : CfgOk cfg) (fuzzy : Bool) (cm : CaseMode) (nz : Bool) (rest : List Atom)
    (hw : ∀ a ∈ rest, wfText a.text = true) (sets : List TermSet) (t : Term) (set : TermSet) :
    (rest.flatMap fun b => [[124], atomToken fuzzy b]).foldl (parseToken cfg fuzzy cm nz)
        { sets, set := t :: set, switchSet := true, afterBar := false } =
      { sets, set := (rest.map (compile cfg cm nz)).reverse ++ t :: set, switchSet := true, afterBar := false } := by
  induction rest generalizing t set with
  | nil => rfl
  | cons b rest ih =>
    simp only [List.flatMap_cons, List.cons_append, List.nil_append, List.foldl_cons]
    rw [parseToken_bar cfg fuzzy cm nz _ (List.cons_ne_nil _ _) rfl,
      parseToken_atom cfg hc fuzzy cm nz _ b (hw b List.mem_cons_self)]
    -- after `|`, `pushTerm` adds to the current group: the state `ih` starts from
    exact (ih (fun a ha => hw a (List.mem_cons_of_mem _ ha)) _ _).trans (by simp)

/-- What `parseTerms` returns from its final state. -/
def closeSets (x : PState) : List TermSet := (if !x.set.isEmpty then x.set.reverse :: x.sets else x.sets).reverse

/-- The parser is between groups: `switchSet` says whether there is a group to close. -/
def Between (st : PState) : Prop := st.switchSet = (!st.set.isEmpty) ∧ st.afterBar = false

theorem pushTerm_between (st : PState) (hst : Between st) (t : Term) :
    pushTerm st t = { sets := (closeSets st).reverse, set := [t], switchSet := true, afterBar := false } := by
  obtain ⟨sets, set, sw, ab⟩ := st
  obtain ⟨h1, h2⟩ := hst
  simp only at h1
  subst h1 h2
  cases set <;> simp [pushTerm, closeSets]

/-- **One OR-group.** Its tokens close the group before it (if any) and leave the group's
    documented terms as the current group. -/
theorem fold_set (cfg : Cfg) (hc : CfgOk cfg) (fuzzy : Bool) (cm : CaseMode) (nz : Bool) (s : List Atom) (hne : s ≠ [])
    (hw : ∀ a ∈ s, wfText a.text = true) (st : PState) (hst : Between st) :
    Between ((barSep (atomToken fuzzy) s).foldl (parseToken cfg fuzzy cm nz) st) ∧
    closeSets ((barSep (atomToken fuzzy) s).foldl (parseToken cfg fuzzy cm nz) st) =
      closeSets st ++ [s.map (compile cfg cm nz)] := by
  cases s with
  | nil => exact absurd rfl hne
  | cons a rest =>
    rw [barSep, List.foldl_cons, parseToken_atom cfg hc fuzzy cm nz _ a (hw a List.mem_cons_self), pushTerm_between st hst,
      fold_more cfg hc fuzzy cm nz rest fun b hb => hw b (List.mem_cons_of_mem _ hb)]
    exact ⟨⟨by simp, rfl⟩, by simp [closeSets]⟩

theorem fold_query (cfg : Cfg) (hc : CfgOk cfg) (fuzzy : Bool) (cm : CaseMode) (nz : Bool) (q : Query)
    (hw : ∀ s ∈ q, s ≠ [] ∧ ∀ a ∈ s, wfText a.text = true) (st : PState) (hst : Between st) :
    closeSets ((tokens (atomToken fuzzy) q).foldl (parseToken cfg fuzzy cm nz) st) =
      closeSets st ++ q.map (·.map (compile cfg cm nz)) := by
  induction q generalizing st with
  | nil => exact (List.append_nil _).symm
  | cons s q ih =>
    obtain ⟨hsne, hsw⟩ := hw s List.mem_cons_self
    obtain ⟨h1, h2⟩ := fold_set cfg hc fuzzy cm nz s hsne hsw st hst
    rw [tokens, List.flatMap_cons, List.foldl_append, ← tokens, ih (fun s' hs' => hw s' (List.mem_cons_of_mem _ hs')) _ h1, h2,
      List.map_cons, List.append_assoc, List.singleton_append]

/-! ### `render` joins the tokens with spaces -/

theorem escapeSpaces_cons (c : Nat) (t : Str) :
    escapeSpaces (c :: t) = (if c = 32 then [92, 32] else [c]) ++ escapeSpaces t := List.flatMap_cons

theorem escapeSpaces_head (t : Str) : (escapeSpaces t).head? ≠ some 32 := by
  cases t with
  | nil => exact fun e => nomatch e
  | cons c r =>
    rw [escapeSpaces_cons]
    split
    · exact fun e => nomatch e
    · exact fun e => by injection e with e; contradiction

theorem escapeSpaces_getLast (t : Str) : (escapeSpaces t).getLast? = t.getLast? := by
  induction t with
  | nil => rfl
  | cons c r ih =>
    have : (if c = 32 then [92, 32] else [c]).getLast? = some c := by split <;> simp [*]
    rw [escapeSpaces_cons, List.getLast?_append, ih, List.getLast?_cons, this]
    cases r.getLast? <;> rfl

theorem escapeSpaces_ne_nil {t : Str} (h : t ≠ []) : escapeSpaces t ≠ [] := fun e =>
  h (List.getLast?_eq_none_iff.mp (by rw [← escapeSpaces_getLast, e]; rfl))

theorem escapeSpaces_append (x y : Str) : escapeSpaces (x ++ y) = escapeSpaces x ++ escapeSpaces y := List.flatMap_append

theorem escapeSpaces_of_no_space {l : Str} (h : ∀ c ∈ l, c ≠ 32) : escapeSpaces l = l := by
  induction l with
  | nil => rfl
  | cons c r ih =>
    rw [escapeSpaces_cons, if_neg (h c List.mem_cons_self), ih fun d hd => h d (List.mem_cons_of_mem _ hd)]
    rfl

/-- Escaping touches the text only: a rendered term is its unescaped syntax, escaped as a whole. -/
theorem renderAtom_eq (fuzzy : Bool) (a : Atom) : renderAtom fuzzy a = escapeSpaces (rawOver fuzzy a.kind a.inv a.text) := by
  rw [rawOver, escapeSpaces_append, escapeSpaces_append,
    escapeSpaces_of_no_space fun c h => isSyn_ne (opener_syn c h) 32 rfl,
    escapeSpaces_of_no_space fun c h => isSyn_ne (closer_syn c h) 32 rfl]
  obtain ⟨kind, inv, t⟩ := a
  cases kind
  case fuzzy | exact => cases inv <;> cases fuzzy <;> exact (List.append_nil _).symm
  case «prefix» => cases inv <;> exact (List.append_nil _).symm
  case boundary | suffix | equal => cases inv <;> rfl

theorem renderAtom_ne_nil (fuzzy : Bool) (a : Atom) (h : a.text ≠ []) : renderAtom fuzzy a ≠ [] := by
  rw [renderAtom_eq]
  exact escapeSpaces_ne_nil (rawOver_ne_nil h)

/-- `render`'s fold over the further atoms of an OR-group joins their tokens, `|` between them. -/
theorem foldl_bar (g : Atom → Str) (acc : Str) (hacc : acc ≠ []) (rest : List Atom) :
    (rest.map g).foldl (fun acc x => if acc.isEmpty then x else acc ++ [32, 124, 32] ++ x) acc =
      joinWith 32 (acc :: rest.flatMap fun b => [[124], g b]) := by
  induction rest generalizing acc with
  | nil => rfl
  | cons b r ih =>
    rw [List.map_cons, List.foldl_cons, List.isEmpty_eq_false_iff.mpr hacc, if_neg Bool.false_ne_true,
      ih _ (List.append_ne_nil_of_left_ne_nil (List.append_ne_nil_of_left_ne_nil hacc _) _),
      List.append_assoc, joinWith_cons_append, joinWith_cons_append]
    rfl

theorem render_flat (fuzzy : Bool) (q : Query) (hw : ∀ s ∈ q, s ≠ [] ∧ ∀ a ∈ s, wfText a.text = true) :
    render fuzzy q = joinWith 32 (tokens (renderAtom fuzzy) q) := by
  have hset : ∀ s ∈ q, (s.map (renderAtom fuzzy)).foldl (fun acc x => if acc.isEmpty then x else acc ++ [32, 124, 32] ++ x) []
      = joinWith 32 (barSep (renderAtom fuzzy) s) := by
    intro s hs
    cases s with
    | nil => exact absurd rfl (hw _ hs).1
    | cons a rest =>
      exact foldl_bar _ _ (renderAtom_ne_nil fuzzy a (wfText_iff.mp ((hw _ hs).2 a List.mem_cons_self)).1) rest
  have hne : ∀ l ∈ q.map (barSep (renderAtom fuzzy)), l ≠ [] := by
    intro l hl
    obtain ⟨s, hs, rfl⟩ := List.mem_map.mp hl
    exact mt barSep_eq_nil.mp (hw s hs).1
  rw [render, tokens, List.flatMap_def, ← joinWith_flatten 32 _ hne, List.map_map]
  exact congrArg _ (List.map_congr_left hset)

/-! ### Reading escapes and splitting at spaces give the tokens back -/

theorem escSpaceToTab_bs_sp (y : Str) : escSpaceToTab (92 :: 32 :: y) = 9 :: escSpaceToTab y := by
  rw [escSpaceToTab]

theorem escSpaceToTab_cons (c : Nat) (y : Str) (h : c ≠ 92 ∨ y.head? ≠ some 32) : escSpaceToTab (c :: y) = c :: escSpaceToTab y := by
  rw [escSpaceToTab] -- the second equation; its side condition: `c :: y` is not `92 :: 32 :: rest`
  rintro rest rfl rfl
  exact h.elim (absurd rfl) (absurd rfl)

/-- Reading escapes distributes over `++` unless an escaped space straddles the seam. -/
theorem escSpaceToTab_append (x y : Str) (h : x.getLast? ≠ some 92 ∨ y.head? ≠ some 32) :
    escSpaceToTab (x ++ y) = escSpaceToTab x ++ escSpaceToTab y := by
  fun_induction escSpaceToTab x with
  | case1 rest ih => -- `x = \ :: space :: rest`
    rw [List.cons_append, List.cons_append, escSpaceToTab_bs_sp, ih (h.imp_left fun h => List.getLast?_ne_of_cons (List.getLast?_ne_of_cons h))]
    rfl
  | case2 c rest hcond ih => -- `x = c :: rest` otherwise: `c :: (rest ++ y)` does not begin an escaped space either
    rw [List.cons_append, escSpaceToTab_cons, ih (h.imp_left List.getLast?_ne_of_cons)]
    · rfl
    · cases rest with
      | nil => exact h.imp_left fun h e => h (by rw [e]; rfl)
      | cons d r => exact (Decidable.em (c = 92)).symm.imp_right fun e hd => hcond r e (by simpa using hd)
  | case3 => rfl

theorem escSpaceToTab_of_no_backslash {l : Str} (h : ∀ c ∈ l, c ≠ 92) : escSpaceToTab l = l := by
  induction l with
  | nil => rfl
  | cons c r ih =>
    rw [escSpaceToTab_cons c r (Or.inl (h c List.mem_cons_self)), ih fun d hd => h d (List.mem_cons_of_mem _ hd)]

theorem escSpaceToTab_escapeSpaces (t : Str) : escSpaceToTab (escapeSpaces t) = t.map sp2tab := by
  induction t with
  | nil => rfl
  | cons c r ih =>
    rw [escapeSpaces_cons, escSpaceToTab_append _ _ (Or.inr (escapeSpaces_head r)), ih, List.map_cons, sp2tab]
    split
    · rfl
    · rw [escSpaceToTab_cons c [] (Or.inr fun e => nomatch e)]; rfl

theorem escSpaceToTab_joinWith (ts : List Str) (h : ∀ t ∈ ts, t.getLast? ≠ some 92) :
    escSpaceToTab (joinWith 32 ts) = joinWith 32 (ts.map escSpaceToTab) := by
  induction ts with
  | nil => rfl
  | cons t r ih =>
    by_cases hr : r = []
    · subst hr; rfl
    · rw [joinWith_cons_ne 32 t r hr, List.map_cons, joinWith_cons_ne 32 _ _ (by simp [hr]),
        escSpaceToTab_append t _ (Or.inl (h t List.mem_cons_self)), escSpaceToTab_cons 32 _ (Or.inl (by decide)),
        ih fun x hx => h x (List.mem_cons_of_mem _ hx)]

/-- A space-free word goes into the current token; the separator flag survives only an empty word. -/
theorem splitSpaces_go_word (t : Str) (h32 : ∀ c ∈ t, c ≠ 32) (cur : Str) (b : Bool) (r : Str) :
    splitSpaces.go cur b (t ++ r) = splitSpaces.go (t.reverse ++ cur) (b && t.isEmpty) r := by
  induction t generalizing cur b with
  | nil => rw [List.isEmpty_nil, Bool.and_true]; rfl
  | cons c t ih =>
    rw [List.cons_append, splitSpaces.go, if_neg (h32 c List.mem_cons_self), ih fun d hd => h32 d (List.mem_cons_of_mem _ hd)]
    simp only [Bool.false_and, List.isEmpty_cons, Bool.and_false, List.reverse_cons, List.append_assoc, List.singleton_append]

theorem splitSpaces_go_joinWith (ts : List Str) (hne : ts ≠ []) (h : ∀ t ∈ ts, t ≠ [] ∧ ∀ c ∈ t, c ≠ 32) (b : Bool) :
    splitSpaces.go [] b (joinWith 32 ts) = ts := by
  induction ts generalizing b with
  | nil => exact absurd rfl hne
  | cons t r ih =>
    obtain ⟨htne, ht32⟩ := h t List.mem_cons_self
    have hw : ∀ s, splitSpaces.go [] b (t ++ s) = splitSpaces.go t.reverse false s := fun s => by
      rw [splitSpaces_go_word t ht32, List.isEmpty_eq_false_iff.mpr htne, Bool.and_false, List.append_nil]
    by_cases hr : r = []
    · subst hr
      rw [joinWith, ← List.append_nil t, hw, splitSpaces.go, List.reverse_reverse, List.append_nil]
    · rw [joinWith_cons_ne 32 t r hr, hw, splitSpaces.go, if_pos rfl, if_neg Bool.false_ne_true, List.reverse_reverse,
        ih hr (fun x hx => h x (List.mem_cons_of_mem _ hx)) true]

/-- Words written with escaped spaces and joined by spaces are split back into the words, their spaces as tabs. -/
theorem split_escaped (ts : List Str) (hne : ts ≠ []) (h : ∀ t ∈ ts, t ≠ [] ∧ t.getLast? ≠ some 92) :
    splitSpaces (escSpaceToTab (joinWith 32 (ts.map escapeSpaces))) = ts.map (·.map sp2tab) := by
  have hl : ∀ t ∈ ts.map escapeSpaces, t.getLast? ≠ some 92 :=
    List.forall_mem_map.mpr fun u hu => escapeSpaces_getLast u ▸ (h u hu).2
  have hw : ∀ t ∈ ts.map (·.map sp2tab), t ≠ [] ∧ ∀ c ∈ t, c ≠ 32 :=
    List.forall_mem_map.mpr fun u hu => ⟨mt List.map_eq_nil_iff.mp (h u hu).1,
      List.forall_mem_map.mpr fun d _ => by unfold sp2tab; split <;> omega⟩
  rw [escSpaceToTab_joinWith _ hl, List.map_map, (funext escSpaceToTab_escapeSpaces : escSpaceToTab ∘ escapeSpaces = _)]
  exact splitSpaces_go_joinWith _ (mt List.map_eq_nil_iff.mp hne) hw false

theorem split_render (fuzzy : Bool) (q : Query) (hq : q ≠ []) (hsets : ∀ s ∈ q, s ≠ [] ∧ ∀ a ∈ s, wfText a.text = true) :
    splitSpaces (escSpaceToTab (render fuzzy q)) = tokens (atomToken fuzzy) q := by
  have hTne : tokens (fun a => rawOver fuzzy a.kind a.inv a.text) q ≠ [] := fun e => by
    obtain ⟨s, hs⟩ := List.exists_mem_of_ne_nil q hq
    exact (hsets s hs).1 (barSep_eq_nil.mp (List.flatMap_eq_nil_iff.mp e s hs))
  rw [render_flat fuzzy q hsets, funext (renderAtom_eq fuzzy), ← tokens_map escapeSpaces rfl,
    split_escaped _ hTne (forall_tokens (by decide) fun s hs a ha => ?_), tokens_map _ rfl]
  · rfl -- `atomToken` unfolded
  · obtain ⟨hne, _, _, ⟨_, _, hl⟩, _⟩ := wfText_iff.mp ((hsets s hs).2 a ha)
    exact ⟨rawOver_ne_nil hne, rawOver_last rfl hne hl⟩

/-- **The documented syntax is read as documented.** For every well-formed query (non-empty
    groups of terms whose texts are non-empty, tab-free, do not begin with `! ' ^`, do not end with
    `$ ' \` and are not `|`), in fuzzy and in `--exact` mode, under every case mode and with or
    without normalisation: parsing the concrete syntax of the query yields exactly the documented
    terms — kind, polarity, smart-case decided per term, accent normalisation unless the term
    carries an accent, escaped spaces restored. -/
theorem parse_render (cfg : Cfg) (hc : CfgOk cfg) (fuzzy : Bool) (cm : CaseMode) (nz : Bool) (q : Query) (hw : wf q = true) :
    parseTerms cfg fuzzy cm nz (render fuzzy q) = q.map (·.map (compile cfg cm nz)) := by
  show closeSets ((splitSpaces (escSpaceToTab (render fuzzy q))).foldl (parseToken cfg fuzzy cm nz) {}) = _
  obtain ⟨hq, hsets⟩ := (wf_iff q).mp hw
  rw [split_render fuzzy q hq hsets]
  exact fold_query cfg hc fuzzy cm nz q hsets {} ⟨rfl, rfl⟩

end Fzf.Query
