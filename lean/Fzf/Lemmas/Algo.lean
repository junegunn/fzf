import Fzf.Model.Algo
import Fzf.Lemmas.Except
/-
Checked array accesses in the `Post` calculus, and the small facts every matcher's proof starts from.
-/
namespace Fzf.Algo

/-- A checked access inside the array returns the element (as `getD`, the form the
    specifications are written in). -/
theorem get_ok (a : Array Nat) (i : Nat) {w : String} (h : i < a.size) : get a (i : Int) w = .ok (a.getD i 0) := by
  rw [get, if_neg (Int.not_lt.mpr (Int.natCast_nonneg i)), Int.toNat_natCast, Array.getD_eq_getD_getElem?,
    Array.getElem?_eq_getElem h]
  rfl

theorem post_get_bind {β : Type} {P : β → Prop} {a : Array Nat} {i : Nat} {w : String} {f : Nat → M β} :
    Post P (get a (i : Int) w >>= f) ↔ i < a.size ∧ Post P (f (a.getD i 0)) := by
  by_cases h : i < a.size
  · rw [get_ok a i h]; exact (and_iff_right h).symm
  · rw [get, if_neg (Int.not_lt.mpr (Int.natCast_nonneg i)), Int.toNat_natCast, Array.getElem?_eq_none (Nat.le_of_not_lt h)]
    exact iff_of_false not_post_error_bind fun h' => h h'.1

theorem Res.none_start : ¬ 0 ≤ Res.none.start := by decide

theorem size_beq_zero {p : Text} (hp : 0 < p.size) : (p.size == 0) = false :=
  beq_false_of_ne (Nat.ne_of_gt hp)

theorem max16_eq_max (a b : Int) : max16 a b = max a b := by
  unfold max16; split <;> omega

theorem w16_small (x : Int) (h1 : -32768 ≤ x) (h2 : x < 32768) : w16 x = x := by
  unfold w16; omega

theorem normalizeRune_of_lt {tbl : List (Nat × Nat)} {c : Nat} (h : c < 0xC0) : normalizeRune tbl c = c :=
  if_pos (.inl h)

theorem foldRune_ascii (cfg : Cfg) (cs norm : Bool) (hnorm : ∀ c, c < 128 → cfg.norm c = c) (c : Nat) (hc : c < 128) :
    foldRune cfg cs norm c = if cs then c else if 65 ≤ c ∧ c ≤ 90 then c + 32 else c := by
  unfold foldRune lowerRune
  -- an upper-case letter lowered is still below 128, so `cfg.norm` leaves it alone too
  have h127 : ¬ c > 127 := by omega
  by_cases hU : 65 ≤ c ∧ c ≤ 90
  · have h32 : c + 32 < 128 := by omega
    cases cs <;> cases norm <;> simp [hU, hnorm _ h32, hnorm _ hc]
  · cases cs <;> cases norm <;> simp [hU, h127, hnorm _ hc]

theorem foldRune_lt (cfg : Cfg) (cs norm : Bool) (hnorm : ∀ c, c < 128 → cfg.norm c = c) (c : Nat) (hc : c < 128) :
    foldRune cfg cs norm c < 128 := by
  rw [foldRune_ascii cfg cs norm hnorm c hc]
  split
  · exact hc
  · split <;> omega

theorem toLower_eq_lowerRune (cfg : Cfg) (c : Nat) : toLower cfg c = lowerRune cfg c := by
  unfold toLower lowerRune
  -- both: ASCII upper case + 32, other ASCII unchanged, beyond ASCII `U.lower`
  by_cases h1 : c ≤ 127 <;> by_cases h2 : 65 ≤ c ∧ c ≤ 90 <;> simp [h1, h2] <;> omega

theorem foldTL_eq_foldRune (cfg : Cfg) (cs norm : Bool) (c : Nat) : foldTL cfg cs norm c = foldRune cfg cs norm c := by
  unfold foldTL foldRune
  rw [toLower_eq_lowerRune]

theorem asciiClass_eq_upper (sch : Scheme) (c : Nat) : asciiClass sch c = cUpper ↔ 65 ≤ c ∧ c ≤ 90 := by
  unfold asciiClass
  by_cases hL : 97 ≤ c ∧ c ≤ 122
  · rw [if_pos hL]
    exact ⟨fun h => absurd h (by decide), fun h => by omega⟩
  · by_cases hU : 65 ≤ c ∧ c ≤ 90
    · rw [if_neg hL, if_pos hU]
      exact ⟨fun _ => hU, fun _ => rfl⟩
    · rw [if_neg hL, if_neg hU]
      refine ⟨fun h => absurd h ?_, fun h => absurd h hU⟩
      -- the other classes are constants different from `cUpper`
      let NotUpper (x : Nat) : Prop := x ≠ cUpper
      exact iteInduction (motive := NotUpper) (fun _ => by decide) fun _ =>
        iteInduction (motive := NotUpper) (fun _ => by decide) fun _ =>
        iteInduction (motive := NotUpper) (fun _ => by decide) fun _ => by decide

theorem indexAt_lt {i n : Nat} (fwd : Bool) (h : i < n) : indexAt i n fwd < n := by
  unfold indexAt; split <;> omega

end Fzf.Algo
