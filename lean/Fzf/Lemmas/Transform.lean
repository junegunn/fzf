import Fzf.Spec.Tokenizer
import Fzf.Lemmas.List
/-
`Transform` selects exactly the fields a field index expression denotes.

Both sides are brought to one normal form, `fieldsIn n lo hi`: the field numbers `1..n` that lie between
two integer bounds. A `Range` denotes the bounds `Range.lo`, `Range.hi` (0 is an open end, a negative
bound counts from the end); every branch of `Transform` selects `fieldsIn` of these, and `newRange`'s
normalisations leave them unchanged, so they are also the bounds `Spec.select` uses. Defines what the C10
statements are made of: `rangeOf`, `WFExpr`, `fieldText`.
-/
namespace Fzf.Tokenizer
open Fzf Fzf.Tokenizer.Spec

/-- The range `newRange` builds for a documented expression (open ends are 0). -/
def rangeOf : Expr → Range
  | .single n => newRange n n
  | .range a b => newRange (a.getD 0) (b.getD 0)

/-- Bounds are never 0 in the documented grammar. -/
def WFExpr : Expr → Prop
  | .single n => n ≠ 0
  | .range a b => a ≠ some 0 ∧ b ≠ some 0

def fieldText (tokens : List Token) (i : Nat) : Str := (tokens.getD (i - 1) default).text

/-- The integers from `lo` to `hi` that number one of `n` fields, in order (the form `Transform`'s
    loop over a range has). -/
def fieldsIn (n : Nat) (lo hi : Int) : List Int :=
  ((List.range (hi - lo + 1).toNat).map fun (k : Nat) => lo + (k : Int)).filter
    fun (i : Int) => decide (i ≥ 1 ∧ i ≤ (n : Int))

theorem fieldsIn_single (n : Nat) (i : Int) : fieldsIn n i i = if 1 ≤ i ∧ i ≤ n then [i] else [] := by
  simp [fieldsIn, List.filter_cons]

/-- The field numbers that lie in `[lo, hi]`, the form `Spec.select` has, are the same list: both
    are increasing and have the same members. -/
theorem fieldsIn_eq_filter (n : Nat) (lo hi : Int) :
    fieldsIn n lo hi = (((List.range n).map (· + 1)).filter
      fun (i : Nat) => decide (lo ≤ (i : Int) ∧ (i : Int) ≤ hi)).map fun (i : Nat) => (i : Int) := by
  refine List.Pairwise.eq_of_mem_iff (r := (· < ·)) (fun _ _ h h' => Int.lt_irrefl _ (Int.lt_trans h h')) ?_ ?_ fun i => ?_
  -- both sides increase: each is `List.range` under increasing maps, filtered
  · exact (List.pairwise_lt_range.map _ fun _ _ h => by omega).filter _
  · exact ((List.pairwise_lt_range.map _ fun _ _ h => Nat.succ_lt_succ h).filter _).map _ fun _ _ h => Int.ofNat_lt.2 h
  -- same members: `i = lo + k` on the left is the field number `i = j + 1` on the right
  · simp only [fieldsIn, List.mem_filter, List.mem_map, List.mem_range, decide_eq_true_eq]
    constructor
    · rintro ⟨⟨k, hk, rfl⟩, h⟩
      exact ⟨(lo + k).toNat, ⟨⟨(lo + k).toNat - 1, by omega⟩, by omega⟩, by omega⟩
    · rintro ⟨_, ⟨⟨j, hj, rfl⟩, h⟩, rfl⟩
      exact ⟨⟨(j + 1 - lo).toNat, by omega⟩, by omega⟩

theorem map_fieldText (tokens : List Token) (l : List Nat) :
    (l.map fun (i : Nat) => (i : Int)).map (fun (i : Int) => (tokens.getD (i - 1).toNat default).text) =
      l.map (fieldText tokens) := by
  rw [List.map_map]
  exact List.map_congr_left fun i _ => congrArg (fun k => (tokens.getD k default).text) (Int.toNat_sub i 1)

theorem fieldsIn_all (tokens : List Token) :
    ((fieldsIn tokens.length 1 tokens.length).map
      fun (i : Int) => (tokens.getD (i - 1).toNat default).text).flatten = joinTokens tokens := by
  -- the bounds `1..n` keep every field number
  have hall : (((List.range tokens.length).map (· + 1)).filter
      fun (i : Nat) => decide ((1 : Int) ≤ (i : Int) ∧ (i : Int) ≤ tokens.length)) = (List.range tokens.length).map (· + 1) :=
    List.filter_eq_self.2 fun i hi => by
      simp only [List.mem_map, List.mem_range] at hi
      obtain ⟨j, hj, rfl⟩ := hi
      simp; omega
  rw [fieldsIn_eq_filter, hall, map_fieldText, List.map_map, joinTokens, List.flatMap_def]
  congr 1
  apply List.ext_getElem         -- field `k + 1` is `tokens[k]`
  · simp
  · intro k h1 h2
    simp only [List.length_map, List.length_range] at h1
    simp [fieldText, h1]

/-- The bounds a range denotes among `n` fields: 0 is the open end. -/
def Range.lo (n : Nat) (r : Range) : Int := if r.begin_ = 0 then 1 else resolve n r.begin_

def Range.hi (n : Nat) (r : Range) : Int := if r.end_ = 0 then n else resolve n r.end_

/-- `newRange` stores `1..` as an open begin and `..-1` as an open end: the same bounds. -/
theorem newRange_lo (n : Nat) (b e : Int) : (newRange b e).lo n = if b = 0 then 1 else resolve n b := by
  simp only [Range.lo, newRange]
  split
  next h => simp [h.1, resolve]
  next => rfl

theorem newRange_hi (n : Nat) (b e : Int) : (newRange b e).hi n = if e = 0 then (n : Int) else resolve n e := by
  simp only [Range.hi, newRange]
  split
  next h => subst h; simp [resolve]; omega
  next => rfl

theorem transform_text (tokens : List Token) (rs : List Range) :
    (transform tokens rs).map (·.text) = rs.map fun r =>
      ((fieldsIn tokens.length (r.lo tokens.length) (r.hi tokens.length)).map
        fun (i : Int) => (tokens.getD (i - 1).toNat default).text).flatten := by
  simp only [transform, List.map_map]
  refine List.map_congr_left fun ⟨bg, en⟩ _ => ?_
  simp only [Function.comp, Range.lo, Range.hi, resolve]
  by_cases heq : bg = en
  · subst heq
    by_cases h0 : bg = 0
    · subst h0                  -- `..`: the whole line
      simpa using (fieldsIn_all tokens).symm
    · simp only [if_true, h0, if_false, fieldsIn_single, ge_iff_le]   -- one field `N`, resolved to `i`
      generalize (if bg < 0 then bg + (tokens.length : Int) + 1 else bg) = i
      split <;> rfl
  -- a proper range: the loop is `fieldsIn` as it stands, whichever end is open
  · simp only [heq, if_false]
    by_cases h0 : bg = 0
    · have he : en ≠ 0 := fun he => heq (h0.trans he.symm)
      simp only [h0, he, if_true, if_false, fieldsIn]
    · by_cases he : en = 0 <;> simp only [h0, he, if_true, if_false, fieldsIn]

theorem select_eq_fieldsIn (n : Nat) (ex : Expr) (hwf : WFExpr ex) :
    (select n ex).map (fun (i : Nat) => (i : Int)) = fieldsIn n ((rangeOf ex).lo n) ((rangeOf ex).hi n) := by
  have open_end (a : Option Int) (d : Int) : a ≠ some 0 →
      (if a.getD 0 = 0 then d else resolve n (a.getD 0)) = match a with | some a => resolve n a | none => d := by
    cases a with
    | none => exact fun _ => rfl
    | some x => exact fun ha => if_neg fun h => ha (congrArg some h)
  cases ex with
  | single x =>
    rw [rangeOf, newRange_lo, newRange_hi, if_neg hwf, if_neg hwf, fieldsIn_single, select]
    split
    · next h => exact congrArg (· :: []) (Int.toNat_of_nonneg (by omega))
    · rfl
  | range a b => rw [rangeOf, newRange_lo, newRange_hi, open_end a _ hwf.1, open_end b _ hwf.2, fieldsIn_eq_filter]; rfl

/-- For any list of expressions, one output token each: its text is the concatenation of the fields its
    expression denotes, in order (`Spec.selectToken`). `transform_selects` is the case of one expression.
    (`Spec.selectToken` also fixes the prefix length; that half is compared per case by the driver only.) -/
theorem transform_selectToken (tokens : List Token) (es : List Expr) (hwf : ∀ ex ∈ es, WFExpr ex) :
    (transform tokens (es.map rangeOf)).map (·.text) = es.map fun ex => (selectToken tokens ex).text := by
  rw [transform_text, List.map_map]
  refine List.map_congr_left fun ex h => ?_
  simp only [Function.comp, selectToken, ← select_eq_fieldsIn _ ex (hwf ex h), map_fieldText, List.flatMap_def]
  rfl

/-- **`Transform` selects exactly the documented fields**: for every field list and every documented
    index expression (`N`, `A..B`, `A..`, `..B`, `..`; any signs, any magnitude), the text of the
    resulting token is the concatenation of the fields the expression denotes, in order — nothing
    when the range is empty or out of range. -/
theorem transform_selects (tokens : List Token) (ex : Expr) (hwf : WFExpr ex) :
    (transform tokens [rangeOf ex]).map (·.text) =
      [((select tokens.length ex).map (fieldText tokens)).flatten] :=
  transform_selectToken tokens [ex] (List.forall_mem_singleton.2 hwf)

end Fzf.Tokenizer
