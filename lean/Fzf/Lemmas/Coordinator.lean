import Fzf.Model.Coordinator
/-
The "latest request wins" invariant of the coordinator / matcher / terminal interplay (`Inv`: the current search
key is on its way to the screen, `front` being the newest request in the pipeline), by cases on `step` as a relation
(`Step`), and termination: fzf's own steps (`own`) use up pending work (`measure`), so they reach the rest state.
-/
namespace Fzf.Coordinator

/-- `step` as a relation: what has to hold for a transition and what it yields. Every proof about
    a step that was taken goes by cases on this. -/
inductive Step : Co → Label → Co → Prop
  | push {s : Co} : s.reading = true → Step s .push { s with n := s.n + 1, evRead := true }
  | eof {s : Co} : s.reading = true → Step s .eof { s with reading := false, evRead := true }
  | edit {s : Co} (q : Nat) : Step s (.edit q) { s with q := q, evSearch := true }
  | reload {s : Co} : Step s .reload { s with n := 0, reading := true, evSearch := true }
  | coordRead {s : Co} : s.evRead = true → Step s .coordRead { s with evRead := false, box := some (cur s) }
  | coordSearch {s : Co} : s.evSearch = true → Step s .coordSearch { s with evSearch := false, box := some (cur s) }
  | take {s : Co} {r : Req} : s.running = none → s.box = some r → Step s .take { s with running := some r, box := none }
  | cancel {s : Co} {r b : Req} : s.running = some r → s.box = some b → Step s .cancel { s with running := none }
  | finish {s : Co} {r : Req} : s.running = some r → Step s .finish { s with running := none, evFin := some r }
  | coordFin {s : Co} {r : Req} : s.evFin = some r → Step s .coordFin { s with evFin := none, shown := some r }

theorem step_sound {s t : Co} {l : Label} (h : step s l = some t) : Step s l t := by
  revert h
  -- branch by branch: a disabled transition yields `none`; an enabled one yields the state of the
  -- constructor of its name, whose guards are the conditions of the branch
  fun_cases step s l
  all_goals intro h
  all_goals cases h
  all_goals constructor <;> assumption

/-- The newest request in the pipeline mailbox → scan → posted result → screen. The matcher's and
    the terminal's steps move it along and never let an older one overtake it. -/
def front (s : Co) : Option Req := s.box.or (s.running.or (s.evFin.or s.shown))

/-- Once input has ended, the current search key is on its way to the screen: an event that will
    make the coordinator request it is pending, or it is the newest request in the pipeline. -/
def Inv (s : Co) : Prop :=
  s.reading = true ∨ s.evRead = true ∨ s.evSearch = true ∨ front s = some (cur s)

theorem step_inv {s t : Co} {l : Label} (h : Inv s) (hs : step s l = some t) : Inv t := by
  have keep : ∀ {t : Co}, t.reading = s.reading → t.evRead = s.evRead → t.evSearch = s.evSearch →
      cur t = cur s → front t = front s → Inv t := fun h1 h2 h3 h4 h5 => by
    unfold Inv; rw [h1, h2, h3, h4, h5]; exact h
  cases step_sound hs with
  | push _ | eof _ => exact Or.inr (Or.inl rfl)
  | edit q => exact Or.inr (Or.inr (Or.inl rfl))
  | reload => exact Or.inl rfl
  | coordRead _ | coordSearch _ => exact Or.inr (Or.inr (Or.inr rfl))
  -- the pipeline's steps leave `front` as it is: what moves on was the newest at its stage, and `cancel`
  -- drops a scan only when the box holds a newer request
  | take hr hb => exact keep rfl rfl rfl rfl (by simp only [front, hr, hb]; rfl)
  | cancel hr hb => exact keep rfl rfl rfl rfl (by simp only [front, hb]; rfl)
  | finish hr => exact keep rfl rfl rfl rfl (by simp only [front, hr]; cases s.box <;> rfl)
  | coordFin hr => exact keep rfl rfl rfl rfl (by simp only [front, hr]; cases s.box <;> cases s.running <;> rfl)

theorem run_cons {s t : Co} {l : Label} {ls : List Label} :
    run s (l :: ls) = some t ↔ ∃ u, step s l = some u ∧ run u ls = some t :=
  Option.bind_eq_some_iff

theorem run_inv {s t : Co} {ls : List Label} (h : Inv s) (hr : run s ls = some t) : Inv t := by
  induction ls generalizing s with
  | nil => cases hr; exact h
  | cons l ls ih =>
    obtain ⟨u, hl, hr⟩ := run_cons.mp hr
    exact ih (step_inv h hl) hr

/-- At rest the newest request is the one shown, and it is the current one. -/
theorem Inv.shows_current {t : Co} (hi : Inv t) (hq : Quiescent t) : t.shown = some ⟨t.q, t.n, true⟩ := by
  obtain ⟨h1, h2, h3, h4, h5, h6⟩ := hq
  rcases hi with h | h | h | h
  · rw [h1] at h; cases h
  · rw [h2] at h; cases h
  · rw [h3] at h; cases h
  · simpa only [front, cur, h1, h4, h5, h6, Option.none_or, Bool.not_false] using h

/-- **At rest the screen shows the search of the current settings over everything loaded.** -/
theorem quiescent_shows_current (ls : List Label) (t : Co) (hr : run {} ls = some t) (hq : Quiescent t) :
    t.shown = some ⟨t.q, t.n, true⟩ :=
  (run_inv (.inl rfl) hr).shows_current hq

/-- fzf's own transitions, as opposed to those of the world (reader, user). -/
def own : Label → Bool
  | .coordRead | .coordSearch | .take | .cancel | .finish | .coordFin => true
  | _ => false

theorem not_stuck (s : Co) (hread : s.reading = false) (h : ¬ Quiescent s) :
    ∃ l, own l = true ∧ (step s l).isSome = true := by
  by_cases h2 : s.evRead = true
  · exact ⟨.coordRead, rfl, by simp [step, h2]⟩
  by_cases h3 : s.evSearch = true
  · exact ⟨.coordSearch, rfl, by simp [step, h3]⟩
  cases h4 : s.evFin with
  | some r => exact ⟨.coordFin, rfl, by simp [step, h4]⟩
  | none =>
    cases h6 : s.running with
    | some r => exact ⟨.finish, rfl, by simp [step, h6]⟩
    | none =>
      cases h5 : s.box with
      | some r => exact ⟨.take, rfl, by simp [step, h6, h5]⟩
      | none => exact absurd ⟨hread, eq_false_of_ne_true h2, eq_false_of_ne_true h3, h4, h5, h6⟩ h

/-- Pending work, weighted by how many steps it can still cause. -/
def measure (s : Co) : Nat :=
  (if s.evRead then 4 else 0) + (if s.evSearch then 4 else 0) + (if s.box.isSome then 3 else 0) +
  (if s.running.isSome then 2 else 0) + (if s.evFin.isSome then 1 else 0)

theorem own_step_decreases {s t : Co} {l : Label} (ho : own l = true) (hs : step s l = some t) :
    measure t < measure s := by
  -- work moves to a cheaper stage: event 4 → box 3 → scan 2 → result 1 → shown 0; `cancel` drops the scan
  cases step_sound hs with
  | push _ | eof _ | edit _ | reload => cases ho
  | coordRead h | coordSearch h | finish h | coordFin h =>
    simp only [measure, h, Option.isSome_some, Option.isSome_none, Bool.false_eq_true, if_true, if_false]; omega
  | take h h' | cancel h h' =>
    simp only [measure, h, h', Option.isSome_some, Option.isSome_none, Bool.false_eq_true, if_true, if_false]; omega

theorem own_step_keeps_world {s t : Co} {l : Label} (ho : own l = true) (hs : step s l = some t) :
    t.reading = s.reading ∧ t.q = s.q ∧ t.n = s.n := by
  cases step_sound hs <;> cases ho <;> exact ⟨rfl, rfl, rfl⟩

theorem own_run_bounded (ls : List Label) (s t : Co) (ho : ∀ l ∈ ls, own l = true) (hr : run s ls = some t) :
    ls.length + measure t ≤ measure s := by
  induction ls generalizing s with
  | nil => cases hr; exact Nat.le_of_eq (Nat.zero_add _)
  | cons l ls ih =>
    obtain ⟨u, hl, hr⟩ := run_cons.mp hr
    have h1 := own_step_decreases (ho l List.mem_cons_self) hl
    have h2 := ih u (fun x hx => ho x (List.mem_cons_of_mem _ hx)) hr
    simp only [List.length_cons]
    omega

/-- Once input has ended and the world is silent, fzf's own steps lead to the rest state. -/
theorem own_steps_reach_rest (s : Co) (hr : s.reading = false) :
    ∃ ls t, (∀ l ∈ ls, own l = true) ∧ run s ls = some t ∧ Quiescent t ∧ t.q = s.q ∧ t.n = s.n := by
  -- by induction on the pending work
  induction hm : measure s using Nat.strongRecOn generalizing s with
  | _ m ih =>
    by_cases hq : Quiescent s
    · exact ⟨[], s, by simp, rfl, hq, rfl, rfl⟩
    · obtain ⟨l, ho, hs⟩ := not_stuck s hr hq
      obtain ⟨u, hl⟩ := Option.isSome_iff_exists.mp hs
      obtain ⟨hkr, hkq, hkn⟩ := own_step_keeps_world ho hl
      obtain ⟨ls, t, hown, hrun, hrest, htq, htn⟩ := ih _ (hm ▸ own_step_decreases ho hl) u (hkr.trans hr) rfl
      exact ⟨l :: ls, t, List.forall_mem_cons.mpr ⟨ho, hown⟩, run_cons.mpr ⟨u, hl, hrun⟩, hrest,
        htq.trans hkq, htn.trans hkn⟩

/-- `own_steps_reach_rest` in the form DESIGN §10.1 names; the bound `n` plays no part. -/
theorem reaches_rest : ∀ (n : Nat) (s : Co), measure s ≤ n → s.reading = false →
    ∃ ls t, (∀ l ∈ ls, own l = true) ∧ run s ls = some t ∧ Quiescent t ∧ t.q = s.q ∧ t.n = s.n :=
  fun _ s _ => own_steps_reach_rest s

end Fzf.Coordinator
