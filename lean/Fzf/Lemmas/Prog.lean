import Fzf.Model.AlgoSlab
/-
The generic fact behind C05's "reuse of scratch memory is unobservable" (and C02's "no panic"):
if the *checked* run of a program returns a value, the *raw* run returns the same value from
every memory that agrees with the checked one on the initially reliable cells — i.e. for every
content of the slab. `Agree m₁ m₂ w` is that agreement; `initMem_agree` at the end (in `Fzf.Algo`, where
`initMem` is) gives it for any two initial contents of the slab.
-/
namespace Fzf.Algo.Prog

/-- `m₁` and `m₂` have the same size and agree wherever `w` says a cell is reliable. -/
def Agree (m₁ m₂ : Array Int) (w : Array Bool) : Prop :=
  m₁.size = m₂.size ∧ ∀ i (h₁ : i < m₁.size) (h₂ : i < m₂.size), w.getD i false = true → m₁[i] = m₂[i]

theorem agree_set {m₁ m₂ : Array Int} {w : Array Bool} (h : Agree m₁ m₂ w) (i : Nat) (v : Int) :
    Agree (m₁.setIfInBounds i v) (m₂.setIfInBounds i v) (w.setIfInBounds i true) := by
  refine ⟨by rw [Array.size_setIfInBounds, Array.size_setIfInBounds, h.1], fun k h₁ h₂ hw => ?_⟩
  rw [Array.size_setIfInBounds] at h₁ h₂
  rw [Array.getElem_setIfInBounds h₁, Array.getElem_setIfInBounds h₂]
  split
  · rfl
  · next hik =>
    -- another cell: it was reliable before the write
    rw [Array.getD_eq_getD_getElem?, Array.getElem?_setIfInBounds_ne hik, ← Array.getD_eq_getD_getElem?] at hw
    exact h.2 k h₁ h₂ hw

theorem checked_ok_imp_raw {p : Prog α} {m₁ m₂ : Array Int} {w : Array Bool} {r : α}
    (hag : Agree m₁ m₂ w) (hc : p.runChk m₁ w = .ok r) : p.runRaw m₂ = .ok r := by
  fun_induction runChk p m₁ w generalizing m₂ with
  | case1 a => exact hc  -- `ret a`
  | case2 e => cases hc  -- `fail e`
  | case3 i k m₁ w hi hw ih =>  -- a read of a reliable cell: both memories hold the same value there
    rw [runRaw, dif_pos (hag.1 ▸ hi), ← hag.2 i hi _ hw]
    exact ih hag hc
  | case4 => cases hc  -- a read of an unreliable cell
  | case5 => cases hc  -- a read outside the memory
  | case6 i v k m₁ w hi ih =>  -- a write inside the memory
    rw [runRaw, if_pos (hag.1 ▸ hi)]
    exact ih (agree_set hag i v) hc
  | case7 => cases hc  -- a write outside the memory

end Fzf.Algo.Prog

namespace Fzf.Algo

theorem initMem_agree (L : Layout) (fc : Nat) (junk₁ junk₂ : Nat → Int) :
    Prog.Agree (initMem L fc junk₁) (initMem L fc junk₂) (initWritten L fc) := by
  refine ⟨by rw [initMem, initMem, Array.size_ofFn, Array.size_ofFn], fun i h₁ _ hw => ?_⟩
  have hi : i < L.phys16 + L.phys32 + fc := by rwa [initMem, Array.size_ofFn] at h₁
  -- a reliable cell is a fresh one (`hw` becomes `i ≥ L.phys16 + L.phys32`), which holds 0 whatever the junk
  rw [initWritten, Array.getD_eq_getD_getElem?, Array.getElem?_ofFn, dif_pos hi, Option.getD_some, decide_eq_true_eq] at hw
  simp only [initMem, Array.getElem_ofFn, if_neg (Nat.not_lt.mpr hw), if_neg (Nat.not_lt.mpr (Nat.le_of_add_right_le hw))]

end Fzf.Algo
