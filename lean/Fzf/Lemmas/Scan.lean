import Fzf.Model.Scan
import Fzf.Lemmas.List
/-
The cancellable parallel scan: every step keeps `Inv e`, which holds the workers' invariant `WInv` and fixes `e`,
what a sequential scan would yield, as all that may be published; so a scan publishes that or nothing.
-/
namespace Fzf.Scan
open Fzf

/-- A slice is its chunks done and to do, and a result that was sent is the matches of the whole slice. -/
structure WInv (w : Worker) : Prop where
  split : w.done ++ w.todo = w.orig
  sent : ∀ r, w.result = some r → r = w.orig.flatten

/-- `e` is what a sequential scan yields: nothing else is ever published, and a scan that was cancelled has
    returned without a result. -/
structure Inv (e : List (List Int)) (s : S) : Prop where
  workers : ∀ w ∈ s.ws, WInv w
  expected : expected s = e
  published : ∀ out, s.phase = .finished (some out) → out = e
  cancelled : s.cancelled = true → s.phase = .finished none

theorem stepWorker_inv {c : Bool} {w w' : Worker} {l : Label} {n : Nat} (h : WInv w)
    (hs : stepWorker c w l = some (w', n)) : WInv w' ∧ w'.orig = w.orig := by
  revert hs
  fun_cases stepWorker c w l <;> intro hs <;> cases hs
  case case1 ch rest htodo _ =>  -- `work`: the next chunk moves from `todo` to `done`
    exact ⟨{ h with split := by rw [← h.split, htodo, List.append_assoc]; rfl }, rfl⟩
  case case4 => exact ⟨{ h with }, rfl⟩  -- `check`, cancelled: the worker quits
  case case5 => exact ⟨{ h with }, rfl⟩  -- `check`, not cancelled: the count is sent
  case case7 hc =>  -- `finish`: nothing is left to do, so what is done is the whole slice
    refine ⟨{ h with sent := fun r hr => ?_ }, rfl⟩
    cases hr
    rw [← h.split, List.isEmpty_iff.mp hc.1, List.append_nil]

theorem stepAt_inv {e : List (List Int)} {s s' : S} {i : Nat} {l : Label} (h : Inv e s)
    (hs : stepAt s i l = some s') : Inv e s' := by
  revert hs
  fun_cases stepAt s i l <;> intro hs <;> cases hs
  case case1 w hwi w' sent hsw =>  -- worker `i` takes the step
    obtain ⟨hinv', horig⟩ := stepWorker_inv (h.workers w (List.mem_of_getElem? hwi)) hsw
    refine { h with workers := fun x hx => ?_
                    expected := (List.map_set_of_eq _ hwi (congrArg List.flatten horig)).trans h.expected }
    rcases List.mem_or_eq_of_mem_set hx with hx | hx  -- only the `i`-th worker changed
    · exact h.workers x hx
    · rw [hx]; exact hinv'

theorem stepMain_inv {e : List (List Int)} {s s' : S} {l : Label} (h : Inv e s) (hs : stepMain s l = some s') :
    Inv e s' := by
  revert hs
  fun_cases stepMain s l <;> intro hs
  case case4 | case6 | case7 => cases hs  -- the label is not enabled
  -- otherwise main is counting or collecting (`hcond.1`), so nothing was cancelled (`h.cancelled`)
  case case1 newer hcond s₁ _ =>  -- `recv`, every chunk counted: on to collecting
    cases hs
    exact { h with published := nofun, cancelled := fun hc => nomatch hcond.1.symm.trans (h.cancelled hc) }
  case case2 hcond s₁ _ =>  -- `recv` with a newer request pending: cancel
    cases hs
    exact { h with published := nofun, cancelled := fun _ => rfl }
  case case3 newer hcond s₁ _ _ =>  -- `recv`, more to come
    injection hs with hs
    subst hs
    exact { h with }
  case case5 hcond =>  -- `collect`: every worker has sent its result
    cases hs
    refine { h with published := fun out hout => ?_
                    cancelled := fun hc => nomatch hcond.1.symm.trans (h.cancelled hc) }
    cases hout
    refine .trans (List.map_congr_left fun w hwm => ?_) h.expected
    obtain ⟨r, hr⟩ := Option.isSome_iff_exists.mp (List.all_eq_true.mp hcond.2 w hwm)
    rw [hr]; exact (h.workers w hwm).sent r hr

/-- A step keeps the invariant: the slices themselves are never touched. -/
theorem step_inv {e : List (List Int)} {s s' : S} {l : Label} (h : Inv e s) (hs : step s l = some s') : Inv e s' := by
  cases l with
  | work i | check i | finish i => exact stepAt_inv h hs
  | recv newer => exact stepMain_inv (l := .recv newer) h hs
  | collect => exact stepMain_inv (l := .collect) h hs

theorem run_inv {e : List (List Int)} {s : S} (ls : List Label) (h : Inv e s) : Inv e (run s ls) :=
  List.foldlRecOn ls _ h fun t ht l _ => by
    cases hs : step t l with
    | none => exact ht
    | some t' => exact step_inv ht hs

theorem init_inv (slices : List (List (List Int))) : Inv (slices.map List.flatten) (init slices) where
  workers w hw := by
    obtain ⟨sl, _, rfl⟩ := List.mem_map.mp hw
    exact ⟨List.nil_append _, nofun⟩
  expected := List.map_map ..
  published := nofun
  cancelled := nofun

/-- Every state a scan of `slices` reaches satisfies the invariant for the complete result of every slice. -/
theorem reachable_inv (slices : List (List (List Int))) (trace : List Label) :
    Inv (slices.map List.flatten) (run (init slices) trace) :=
  run_inv trace (init_inv slices)

end Fzf.Scan
