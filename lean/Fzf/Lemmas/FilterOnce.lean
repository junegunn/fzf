import Fzf.Model.Filter
import Fzf.Lemmas.List
/-
Filter mode (C01, C04, C07): what `fzf --filter` prints is, up to order, the numbered original
records of the items the pattern matches (`runIdx_perm`); that no line is dropped, none is shown
twice and only input records are shown are read off it. The statements speak of `itemsOf` (the items
filter mode works on; also in `C01_filter_exact`), `patOf` (the pattern it builds from options and query) and
`shown` (whether it prints an item).
-/
namespace Fzf.Filter
open Fzf

theorem buildItems_go_orig_index (o : Opts) (ls : List Str) (hdr idx : Nat) :
    (buildItems.go o ls hdr idx).map (fun it => (it.orig, it.index)) =
      (ls.drop (o.headerLines - hdr)).zipIdx idx := by
  fun_induction buildItems.go o ls hdr idx with
  | case1 => simp only [List.drop_nil, List.zipIdx_nil, List.map_nil]
  -- a header line: skipped, not numbered
  | case2 hdr idx l rest hlt ih =>
    rw [ih, show o.headerLines - hdr = (o.headerLines - (hdr + 1)) + 1 by omega, List.drop_succ_cons]
  -- an item is built, with or without `--with-nth`: its record is the line, its number the next one
  | case3 hdr idx l rest hge _ _ _ _ ih | case4 hdr idx l rest hge _ _ _ _ _ _ _ ih =>
    rw [Nat.sub_eq_zero_of_le (Nat.le_of_not_lt hge)] at ih ⊢
    rw [List.map_cons, ih]; rfl

/-- The pairs are (record, number), the order `zipIdx` gives; what `runIdx` prints has (number, record). -/
theorem buildItems_orig_index (o : Opts) (lines : List Str) :
    (buildItems o lines).map (fun it => (it.orig, it.index)) = (lines.drop o.headerLines).zipIdx :=
  buildItems_go_orig_index o lines 0 0

theorem buildItems_increasing (o : Opts) (lines : List Str) :
    (buildItems o lines).Pairwise (fun a b => a.index < b.index) := by
  -- the numbers are `0, 1, …` in order (`buildItems_orig_index`)
  have := List.pairwise_lt_range' (s := 0) (n := (lines.drop o.headerLines).length)
  rw [← List.zipIdx_map_snd, ← buildItems_orig_index, List.map_map] at this
  exact List.pairwise_map.mp this

/-- The items filter mode works on: all of them, or the last `--tail` of them. -/
def itemsOf (o : Opts) (lines : List Str) : List Item :=
  if o.tail > 0 ∧ !(!o.sort && !o.tac) then lastN o.tail (buildItems o lines) else buildItems o lines

abbrev patOf (o : Opts) (query : Str) : Pattern.Pattern :=
  Pattern.buildPattern o.cfg o.fuzzy o.v2 o.extended o.caseMode o.normalize (dirAndPos o.criteria).1 false query

/-- Does filter mode print the item?  Every item for an empty pattern (unless streaming), else
    those on which the pattern matches. -/
def shown (o : Opts) (slabCap : Nat) (query : Str) (it : Item) : Bool :=
  ((patOf o query).isEmpty && !(!o.sort && !o.tac)) ||
    match Pattern.matchItem o.cfg (patOf o query) (inputTokens o it) (if (!o.sort && !o.tac) then false else (dirAndPos o.criteria).2) slabCap with
    | .ok (some _) => true
    | _ => false

/-- **Filter mode, in one line**: what `fzf --filter` prints is, up to order, the items that are
    `shown`, each under its number with its original record.  (Sorting, `--tac` and the scores
    only permute.) -/
theorem runIdx_perm (o : Opts) (slabCap : Nat) (query : Str) (lines : List Str) (out : List (Nat × Str))
    (h : runIdx o slabCap query lines = some out) :
    out.Perm (((itemsOf o lines).filter (shown o slabCap query)).map fun it => (it.index, it.orig)) := by
  unfold runIdx at h
  unfold itemsOf shown patOf
  simp only at h
  generalize (if o.tail > 0 ∧ !(!o.sort && !o.tac) then lastN o.tail (buildItems o lines) else buildItems o lines) = items at h ⊢
  generalize Pattern.buildPattern o.cfg o.fuzzy o.v2 o.extended o.caseMode o.normalize (dirAndPos o.criteria).1 false query = pat at h ⊢
  by_cases hE : pat.isEmpty = true ∧ (!(!o.sort && !o.tac)) = true
  · rw [if_pos hE] at h
    cases h
    rw [List.filter_eq_self.mpr fun it _ => by rw [hE.1, hE.2]; rfl]
    split
    · exact (List.reverse_perm _).map _
    · exact .refl _
  · rw [if_neg hE] at h
    rw [← Bool.and_eq_true, Bool.not_eq_true] at hE
    generalize hrs : List.mapM (m := Option) _ items = scored at h
    cases scored with
    | none => cases h
    | some rs =>
      cases h
      refine (List.Perm.map (·.2) (l₂ := rs.filterMap id) ?_).trans (.of_eq ?_)
      · split
        · exact List.mergeSort_perm _ _
        · split
          · exact List.reverse_perm _
          · exact .refl _
      -- the scored entries kept, without their scores, are the shown items' records
      · rw [List.filterMap_id_of_mapM hrs, List.map_filterMap, ← List.filterMap_eq_map, List.filterMap_filter]
        congr 1; funext it
        rw [hE]
        generalize Pattern.matchItem _ _ _ _ _ = r
        rcases r with _ | _ | _ <;> rfl

theorem runIdx_mem {o : Opts} {slabCap : Nat} {query : Str} {lines : List Str} {out : List (Nat × Str)}
    (h : runIdx o slabCap query lines = some out) {p : Nat × Str} :
    p ∈ out ↔ ∃ it ∈ itemsOf o lines, shown o slabCap query it = true ∧ p = (it.index, it.orig) := by
  rw [(runIdx_perm o slabCap query lines out h).mem_iff, List.mem_map]
  exact ⟨fun ⟨it, hit, e⟩ => ⟨it, (List.mem_filter.mp hit).1, (List.mem_filter.mp hit).2, e.symm⟩,
    fun ⟨it, hit, hs, e⟩ => ⟨it, List.mem_filter.mpr ⟨hit, hs⟩, e.symm⟩⟩

theorem itemsOf_sublist (o : Opts) (lines : List Str) : (itemsOf o lines).Sublist (buildItems o lines) := by
  unfold itemsOf
  split
  · exact List.drop_sublist _ _
  · exact .refl _

theorem shown_iff (o : Opts) (slabCap : Nat) (query : Str) (it : Item)
    (hpat : ¬ ((patOf o query).isEmpty = true ∧ (!(!o.sort && !o.tac)) = true)) :
    shown o slabCap query it = true ↔
      ∃ m, Pattern.matchItem o.cfg (patOf o query) (inputTokens o it)
        (if (!o.sort && !o.tac) then false else (dirAndPos o.criteria).2) slabCap = .ok (some m) := by
  rw [← Bool.and_eq_true, Bool.not_eq_true] at hpat
  rw [shown, hpat]
  generalize Pattern.matchItem _ _ _ _ _ = r
  rcases r with _ | _ | m
  · exact ⟨nofun, nofun⟩
  · exact ⟨nofun, nofun⟩
  · exact ⟨fun _ => ⟨m, rfl⟩, fun _ => rfl⟩

end Fzf.Filter
