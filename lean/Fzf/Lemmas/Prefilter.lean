import Fzf.Lemmas.Algo
import Fzf.Lemmas.Subseq
import Fzf.Lemmas.List
/-
The ASCII pre-filter (`asciiFuzzyIndex` / `trySkip`) loses no match: a text it rejects does not
contain the pattern as a subsequence of its folded characters, and the window it cuts out of a text
it accepts contains every embedding.
-/
namespace Fzf.Algo

/-- The relation `trySkip` searches with (`up` = the pattern byte is a lower-case letter and the
    match is case-insensitive). -/
def skipRel (up : Bool) (c b : Nat) : Bool := c == b || (up && c == b - 32)

/-- `skipRel` with the `up` that `trySkip` computes from the case mode and the pattern byte: the text character `c`
    is the pattern byte `b`, or its upper case when the match is case-insensitive. -/
def preRel (cs : Bool) (c b : Nat) : Bool := skipRel (!cs && decide (97 ≤ b) && decide (b ≤ 122)) c b

theorem trySkip.go_findIdx (t : Text) (up : Bool) (b fuel i : Nat) (h : t.size ≤ i + fuel) :
    trySkip.go t b up i fuel = ((t.toList.drop i).findIdx? (skipRel up · b)).map (· + i) := by
  fun_induction trySkip.go t b up i fuel with
  | case1 i => rw [List.drop_of_length_le (by simpa using h)]; rfl  -- no fuel: the text is used up
  | case2 i fuel hi c hc =>  -- `t[i]` is accepted
    rw [List.drop_eq_getElem_cons (by simpa using hi), List.findIdx?_cons, Array.getElem_toList,
      if_pos (show skipRel up t[i] b = true from hc), Option.map_some, Nat.zero_add]
  | case3 i fuel hi c hc ih =>  -- `t[i]` is not accepted
    rw [List.drop_eq_getElem_cons (by simpa using hi), List.findIdx?_cons, Array.getElem_toList,
      if_neg (show ¬ skipRel up t[i] b = true from hc), ih (by omega), Option.map_map]
    congr 1; funext j; simp only [Function.comp]; omega
  | case4 i fuel hi => rw [List.drop_of_length_le (by simpa using hi)]; rfl  -- the text is used up

theorem trySkip_findIdx (t : Text) (cs : Bool) (b frm : Nat) :
    trySkip t cs b frm = ((t.toList.drop frm).findIdx? (preRel cs · b)).map (· + frm) :=
  trySkip.go_findIdx t _ b _ frm (by omega)

theorem trySkip_some {t : Text} {cs : Bool} {b frm i : Nat} (h : trySkip t cs b frm = some i) :
    ∀ j, frm ≤ j → j < i → preRel cs (t.getD j 0) b = false := by
  rw [trySkip_findIdx, Option.map_eq_some_iff] at h
  obtain ⟨k, hk, rfl⟩ := h
  obtain ⟨_, _, hrej⟩ := List.findIdx?_eq_some_iff_getElem.mp hk
  simp only [List.getElem_drop, Array.getElem_toList, Array.getElem_eq_getD 0] at hrej
  intro j h1 h2
  have := hrej (j - frm) (by omega)
  rwa [Nat.add_sub_cancel' h1, Bool.not_eq_true] at this

theorem asciiFuzzyIndex.loop_none {t p : Text} {cs : Bool} {fuel pidx idx f l : Nat} (hp : pidx + fuel = p.size)
    (h : asciiFuzzyIndex.loop t p cs pidx idx f l fuel = none) :
    greedyBy (preRel cs) (p.toList.drop pidx) (t.toList.drop idx) = false := by
  revert h
  -- a round of the loop and a step of the greedy test are the same `findIdx?`
  fun_induction asciiFuzzyIndex.loop t p cs pidx idx f l fuel with
  | case1 => exact nofun  -- no fuel: `some`
  | case2 pidx idx f l fuel hskip =>  -- `trySkip` finds nothing
    rw [trySkip_findIdx, Option.map_eq_none_iff] at hskip
    rw [Array.toList_drop_getD p 0 pidx (by omega), greedyBy_cons_findIdx, hskip]
    exact fun _ => rfl
  | case3 pidx idx f l fuel i hskip _ ih =>  -- `trySkip` stops at `i`
    rw [trySkip_findIdx, Option.map_eq_some_iff] at hskip
    obtain ⟨k, hk, rfl⟩ := hskip
    rw [Array.toList_drop_getD p 0 pidx (by omega), greedyBy_cons_findIdx, hk]
    show _ → greedyBy _ _ ((t.toList.drop idx).drop (k + 1)) = false
    rw [List.drop_drop, show idx + (k + 1) = k + idx + 1 by omega]
    exact ih (by omega)

theorem preRel_foldRune (cfg : Cfg) (cs norm : Bool) (hnorm : ∀ c, c < 128 → cfg.norm c = c) (c : Nat) (hc : c < 128) :
    preRel cs c (foldRune cfg cs norm c) = true := by
  rw [foldRune_ascii cfg cs norm hnorm c hc]
  unfold preRel skipRel
  cases cs
  · by_cases hU : 65 ≤ c ∧ c ≤ 90 <;> simp [hU]
  · simp

/-- What `asciiFuzzyIndex` has done when it answers `none` (only on byte texts): the pattern is not ASCII, or the
    forward loop ran out of text. -/
theorem asciiFuzzyIndex_eq_none {t p : Text} {isBytes cs : Bool} (h : asciiFuzzyIndex t isBytes p cs = none) :
    isBytes = true ∧ (isAsciiPat p = false ∨ asciiFuzzyIndex.loop t p cs 0 0 0 0 p.size = none) := by
  revert h
  fun_cases asciiFuzzyIndex t isBytes p cs with
  | case1 => exact nofun  -- not a byte text: `some`
  | case2 hb hpat => exact fun _ => ⟨by simpa using hb, .inl (by simpa using hpat)⟩  -- the pattern is not ASCII
  | case3 hb _ hl => exact fun _ => ⟨by simpa using hb, .inr hl⟩  -- the forward loop ran out of text
  | case4 => exact nofun  -- the forward loop found the pattern: `some`

/-- **The ASCII pre-filter is sound**: a text it rejects does not contain the pattern as a
    subsequence (of its folded characters). `isBytes` means the text is all ASCII. -/
theorem asciiFuzzyIndex_none_sound (cfg : Cfg) (cs norm : Bool) (t p : Text) (isBytes : Bool)
    (hascii : isBytes = true → ∀ c ∈ t.toList, c < 128)
    (hnorm : ∀ c, c < 128 → cfg.norm c = c)
    (h : asciiFuzzyIndex t isBytes p cs = none) :
    ¬ List.Sublist p.toList (t.toList.map (foldRune cfg cs norm)) := by
  obtain ⟨hb, hcase⟩ := asciiFuzzyIndex_eq_none h
  have hasc := hascii hb
  intro hsub
  rcases hcase with hpat | hl
  · -- a pattern character outside ASCII cannot occur in an ASCII text
    refine Bool.eq_false_iff.mp hpat ?_
    unfold isAsciiPat
    rw [Array.all_eq_true']
    intro x hx
    have hmem : x ∈ t.toList.map (foldRune cfg cs norm) := hsub.subset (by simpa using hx)
    rw [List.mem_map] at hmem
    obtain ⟨c, hc, rfl⟩ := hmem
    simpa using foldRune_lt cfg cs norm hnorm c (hasc c hc)
  · -- the forward loop is the greedy test under `preRel`, which every folded character passes
    have hg := asciiFuzzyIndex.loop_none (Nat.zero_add _) hl
    rw [List.drop_zero, List.drop_zero, greedyBy_complete (preRel cs) (foldRune cfg cs norm) p.toList t.toList
      (fun c hc => preRel_foldRune cfg cs norm hnorm c (hasc c hc)) hsub] at hg
    cases hg

theorem asciiFuzzyIndex.loop_firstIdx {t p : Text} {cs : Bool} {fuel pidx idx f l f' l' : Nat} (h0 : pidx ≠ 0)
    (h : asciiFuzzyIndex.loop t p cs pidx idx f l fuel = some (f', l')) : f' = f := by
  revert h
  fun_induction asciiFuzzyIndex.loop t p cs pidx idx f l fuel with
  | case1 => exact fun h => by cases h; rfl  -- no fuel: the loop returns the `f` it has
  | case2 => exact nofun  -- `trySkip` finds nothing: `none`
  | case3 pidx idx f l fuel i _ _ ih =>  -- only the round with `pidx = 0` changes `f`
    exact fun h => (ih (Nat.succ_ne_zero _) h).trans (if_neg (by simp [h0]))

/-- What the first phase of the pre-filter returns for `firstIdx`: a position before which the
    relation accepts nothing for the first pattern character. -/
theorem asciiFuzzyIndex.loop_firstIdx_rejects {t p : Text} {cs : Bool} {f' l' : Nat} (hp : 0 < p.size)
    (h : asciiFuzzyIndex.loop t p cs 0 0 0 0 p.size = some (f', l')) :
    ∀ j, j < f' → preRel cs (t.getD j 0) (p.getD 0 0) = false := by
  obtain ⟨fuel, hfuel⟩ := Nat.exists_eq_succ_of_ne_zero (Nat.ne_of_gt hp)
  rw [hfuel] at h
  unfold asciiFuzzyIndex.loop at h
  cases hres : trySkip t cs (p.getD 0 0) 0 with
  | none => rw [hres] at h; cases h
  | some i =>
    rw [hres] at h
    -- `f'` is the `firstIdx` of the first round, `i - 1` or `0`: not beyond the first hit `i`
    rw [asciiFuzzyIndex.loop_firstIdx Nat.one_ne_zero h]
    intro j hj
    refine trySkip_some hres j (Nat.zero_le j) ?_
    split at hj <;> omega

/-- The backward scan for the last pattern character stops right after the last position that the
    relation accepts for it (or where it started). -/
theorem asciiFuzzyIndex.back_spec (t : Text) (up : Bool) (lastIdx b off j : Nat)
    (h1 : asciiFuzzyIndex.back t lastIdx b (if up then b - 32 else b) off ≤ j) (h2 : j ≤ lastIdx + off) :
    skipRel up (t.getD j 0) b = false := by
  induction off with
  | zero =>
    unfold asciiFuzzyIndex.back at h1
    omega
  | succ off ih =>
    unfold asciiFuzzyIndex.back at h1
    have hrel : ∀ c, (c == b || c == if up then b - 32 else b) = skipRel up c b := fun c => by
      cases up <;> simp [skipRel]
    simp only [hrel] at h1
    cases hc : skipRel up (t.getD (lastIdx + (off + 1)) 0) b with
    | true => rw [hc, if_pos rfl] at h1; omega
    | false =>
      rw [hc, if_neg Bool.false_ne_true] at h1
      by_cases hj : j = lastIdx + (off + 1)
      · rw [hj]; exact hc
      · exact ih h1 (by omega)

/-- What `asciiFuzzyIndex` has done when it answers `some (a, b)`: the whole text (not a byte text), or `a` from the
    forward loop and `b` from the backward scan that starts at the loop's last index. -/
theorem asciiFuzzyIndex_eq_some {t p : Text} {isBytes cs : Bool} {a b : Nat} (h : asciiFuzzyIndex t isBytes p cs = some (a, b)) :
    let last := p.getD (p.size - 1) 0
    (isBytes = false ∧ a = 0 ∧ b = t.size) ∨
    (isBytes = true ∧ ∃ l', asciiFuzzyIndex.loop t p cs 0 0 0 0 p.size = some (a, l') ∧
      asciiFuzzyIndex.back t l' last (if (!cs && decide (97 ≤ last) && decide (last ≤ 122)) = true then last - 32 else last)
        (t.size - l' - 1) = b) := by
  revert h
  fun_cases asciiFuzzyIndex t isBytes p cs with
  | case1 hb =>  -- not a byte text
    intro h
    cases h
    exact .inl ⟨by simpa using hb, rfl, rfl⟩
  | case2 => exact nofun  -- the pattern is not ASCII: `none`
  | case3 => exact nofun  -- the forward loop ran out of text: `none`
  | case4 hb _ f l hl =>  -- the forward loop found the pattern
    intro h
    cases h
    exact .inr ⟨by simpa using hb, l, hl, rfl⟩

/-- **The window the pre-filter hands to the matcher loses no embedding**: the pattern is a
    subsequence of the folded text exactly when it is one of the folded window. -/
theorem window_keeps (cfg : Cfg) (cs norm : Bool) (hnorm : ∀ c, c < 128 → cfg.norm c = c) (t p : Text) (isBytes : Bool)
    (hascii : isBytes = true → ∀ c ∈ t.toList, c < 128) (hp : 0 < p.size) (a b : Nat)
    (h : asciiFuzzyIndex t isBytes p cs = some (a, b)) :
    (List.Sublist p.toList (t.toList.map (foldRune cfg cs norm)) ↔
     List.Sublist p.toList ((t.extract a b).toList.map (foldRune cfg cs norm))) := by
  rw [Array.toList_extract, List.extract_eq_drop_take']
  refine ⟨fun hs => ?_, fun hs => hs.trans (List.Sublist.map _ ((List.drop_sublist _ _).trans (List.take_sublist _ _)))⟩
  rcases asciiFuzzyIndex_eq_some h with ⟨_, rfl, rfl⟩ | ⟨hb, l', hl, hbk⟩
  · rw [List.take_of_length_le (by simp)]  -- not a byte text: the window is the text
    exact hs
  · have hasc := hascii hb
    have hfirst := asciiFuzzyIndex.loop_firstIdx_rejects hp hl
    -- rewriting with `hbk` fixes the `up` of `asciiFuzzyIndex.back_spec`
    have hlast : ∀ j, b ≤ j → j ≤ l' + (t.size - l' - 1) → skipRel _ (t.getD j 0) (p.getD (p.size - 1) 0) = false :=
      hbk ▸ asciiFuzzyIndex.back_spec t _ l' (p.getD (p.size - 1) 0) (t.size - l' - 1)
    have hne : p.toList ≠ [] := List.ne_nil_of_length_pos hp
    have hhead : p.toList.head hne = p.getD 0 0 := by
      rw [List.head_eq_getElem, Array.getElem_toList, Array.getElem_eq_getD 0]
    have hend : p.toList.getLast hne = p.getD (p.size - 1) 0 := by
      rw [List.getLast_eq_getElem, Array.getElem_toList, Array.getElem_eq_getD 0, Array.length_toList]
    -- the text is what comes before the window, the window, and what comes after it
    rw [← List.take_append_drop b t.toList, ← List.take_append_drop a (t.toList.take b), List.map_append,
      List.map_append] at hs
    refine List.sublist_drop_prefix hne (fun hc => ?_) (List.sublist_drop_suffix hne (fun hc => ?_) hs)
    -- a text character that folds to a pattern byte is one the pre-filter's scans stop at
    · obtain ⟨d, hd, heq⟩ := List.mem_map.mp hc
      rw [List.take_take] at hd
      have := preRel_foldRune cfg cs norm hnorm d (hasc d (List.mem_of_mem_take hd))
      obtain ⟨j, hja, rfl⟩ := Array.mem_take_getD t 0 hd
      rw [heq, hhead, hfirst j (Nat.lt_min.mp hja).1] at this
      cases this
    · obtain ⟨d, hd, heq⟩ := List.mem_map.mp hc
      have := preRel_foldRune cfg cs norm hnorm d (hasc d (List.mem_of_mem_drop hd))
      obtain ⟨j, hjb, hjt, rfl⟩ := Array.mem_drop_getD t 0 hd
      rw [heq, hend, preRel, hlast j hjb (by omega)] at this
      cases this

end Fzf.Algo
