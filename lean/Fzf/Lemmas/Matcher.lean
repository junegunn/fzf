import Fzf.Model.Matcher
/-
The mailbox, the chunk cache and the merger cache of Model/Matcher.lean, each with the invariant
(`BoxInv`, `QCInv`, `LSInv`) under which it is unobservable. A history is, for the mailbox, the requests posted
(`postAll`), for the chunk cache the patterns matched against one chunk (`runPats`), for the merger cache the
requests served, each with what is published for it (`servePairs`); `ScanExt` says what a scan may depend on and
`Valid` what two requests of one history have in common.
-/
namespace Fzf.Matcher
open Fzf

/-! ### Mailbox -/

/-- No pending request is numbered above `next`: the one posted next is the newest. -/
def BoxInv {α : Type} (b : Box α) : Prop :=
  (∀ r, b.retry = some r → r.seq ≤ b.next) ∧ (∀ r, b.reset = some r → r.seq ≤ b.next)

theorem post_inv {α : Type} (b : Box α) (c : Bool) (x : α) (h : BoxInv b) : BoxInv (post b c x) := by
  cases c  -- the slot written holds number `next + 1`, the other slot is as it was
  · exact ⟨fun r hr => by cases hr; exact Nat.le_refl _, fun r hr => Nat.le_succ_of_le (h.2 r hr)⟩
  · exact ⟨fun r hr => Nat.le_succ_of_le (h.1 r hr), fun r hr => by cases hr; exact Nat.le_refl _⟩

theorem take_post {α : Type} (b : Box α) (c : Bool) (x : α) (h : BoxInv b) :
    (take (post b c x)).1.map (·.body) = some x := by
  cases c
  · -- posted to the retry slot: a pending reset has a smaller number
    cases hr : b.reset with
    | none => simp [take, post, hr]
    | some cr => simp [take, post, hr, Nat.not_lt.mpr (Nat.le_succ_of_le (h.2 cr hr))]
  · -- posted to the reset slot: a pending retry has a smaller number
    cases hr : b.retry with
    | none => simp [take, post, hr]
    | some a => simp [take, post, hr, Nat.lt_succ_of_le (h.1 a hr)]

def postAll {α : Type} (b : Box α) (ps : List (Bool × α)) : Box α := ps.foldl (fun b p => post b p.1 p.2) b

theorem postAll_inv {α : Type} (ps : List (Bool × α)) (b : Box α) (h : BoxInv b) : BoxInv (postAll b ps) :=
  List.foldlRecOn ps _ h fun b h p _ => post_inv b p.1 p.2 h

theorem take_postAll {α : Type} (b : Box α) (h : BoxInv b) (ps : List (Bool × α)) (last : Bool × α) :
    (take (postAll b (ps ++ [last]))).1.map (·.body) = some last.2 := by
  rw [postAll, List.foldl_append, List.foldl_cons, List.foldl_nil]
  exact take_post _ _ _ (postAll_inv ps b h)

/-! ### Chunk cache -/

/-- Every entry holds the items of the chunk that its key matches: `sem k` is what the pattern with cache key `k`
    matches. -/
def QCInv {Item : Type} (sem : Str → Item → Bool) (items : List Item) (qc : QC Item) : Prop :=
  ∀ e ∈ qc, e.2 = items.filter (sem e.1)

theorem qcGet_sound {Item : Type} {sem : Str → Item → Bool} {items : List Item} {qc : QC Item}
    (hinv : QCInv sem items qc) {k : Str} {l : List Item} (h : qcGet qc k = some l) : l = items.filter (sem k) := by
  obtain ⟨e, hf, rfl⟩ := Option.map_eq_some_iff.mp h
  have hk : e.1 = k := eq_of_beq (List.find?_some hf :)
  exact hk ▸ hinv e (List.mem_of_find?_eq_some hf)

theorem lookup_sound {Item : Type} {sem : Str → Item → Bool} {items : List Item} {qc : QC Item}
    (hinv : QCInv sem items qc) {full : Bool} {k : Str} {l : List Item} (h : lookup qc full k = some l) :
    l = items.filter (sem k) := by
  unfold lookup at h
  split at h
  · cases h
  · exact qcGet_sound hinv h

theorem search_sound {Item : Type} {sem : Str → Item → Bool} {items : List Item} {qc : QC Item}
    (hinv : QCInv sem items qc) {full : Bool} {k : Str} {l : List Item} (h : search qc full k = some l) :
    ∃ k' ∈ subkeys k, l = items.filter (sem k') := by
  unfold search at h
  split at h
  · cases h
  · obtain ⟨k', hk', hget⟩ := List.exists_of_findSome?_eq_some h
    exact ⟨k', hk', qcGet_sound hinv hget⟩

theorem add_inv {Item : Type} {sem : Str → Item → Bool} {items : List Item} {qc : QC Item}
    (hinv : QCInv sem items qc) (full : Bool) (cacheMax : Nat) {k : Str} {l : List Item} (h : l = items.filter (sem k)) :
    QCInv sem items (add qc full cacheMax k l) := by
  unfold add
  split
  · exact hinv
  · exact List.forall_mem_cons.mpr ⟨h, hinv⟩

/-- `sem k` is what the cacheable pattern with key `k` matches, `Buildable` the family of patterns considered.
    `keySem`: a cacheable pattern is determined by its cache key; `mono`: whatever matches a pattern also matches
    the cacheable pattern of every shorter prefix / suffix key (`subkeys`). -/
theorem matchChunk_transparent {Item : Type} {sem : Str → Item → Bool} {Buildable : Pat Item → Prop}
    (keySem : ∀ p, Buildable p → p.cacheable = true → ∀ i, p.sat i = sem p.key i)
    (mono : ∀ p, Buildable p → ∀ k' ∈ subkeys p.key, ∀ i, p.sat i = true → sem k' i = true)
    (cacheMax : Nat) (p : Pat Item) (hp : Buildable p) (items : List Item) (full : Bool) (qc : QC Item)
    (hinv : QCInv sem items qc) :
    (matchChunk cacheMax p items full qc).1 = items.filter p.sat ∧
    QCInv sem items (matchChunk cacheMax p items full qc).2 := by
  -- narrowing what is cached for a sub-key finds what a scan of the chunk finds
  have hres : ((search qc full p.key).getD items).filter p.sat = items.filter p.sat := by
    cases hs : search qc full p.key with
    | none => rfl
    | some l =>
      obtain ⟨k', hk', rfl⟩ := search_sound hinv hs
      -- whatever matches `p` matches the sub-key `k'`, so filtering by `k'` first loses nothing
      rw [Option.getD_some, List.filter_filter]
      exact List.filter_congr fun i _ => Bool.and_eq_left_iff_imp.mpr (mono p hp k' hk' i)
  unfold matchChunk
  cases hcache : p.cacheable with
  | false => exact ⟨hres, hinv⟩
  | true =>
    have hkey : items.filter p.sat = items.filter (sem p.key) := List.filter_congr fun i _ => keySem p hp hcache i
    cases hl : lookup qc full p.key with
    | some cached => exact ⟨(lookup_sound hinv hl).trans hkey.symm, hinv⟩
    | none => exact ⟨hres, add_inv hinv full cacheMax (hres.trans hkey)⟩

/-- A history of patterns matched against the same (full or growing) chunk, sharing the cache. -/
def runPats {Item : Type} (cacheMax : Nat) (items : List Item) (full : Bool) :
    QC Item → List (Pat Item) → List (List Item)
  | _, [] => []
  | qc, p :: ps =>
    let r := matchChunk cacheMax p items full qc
    r.1 :: runPats cacheMax items full r.2 ps

theorem runPats_transparent {Item : Type} {sem : Str → Item → Bool} {Buildable : Pat Item → Prop}
    (keySem : ∀ p, Buildable p → p.cacheable = true → ∀ i, p.sat i = sem p.key i)
    (mono : ∀ p, Buildable p → ∀ k' ∈ subkeys p.key, ∀ i, p.sat i = true → sem k' i = true)
    (cacheMax : Nat) (items : List Item) (full : Bool) (ps : List (Pat Item)) (hps : ∀ p ∈ ps, Buildable p)
    (qc : QC Item) (hinv : QCInv sem items qc) :
    runPats cacheMax items full qc ps = ps.map fun p => items.filter p.sat := by
  induction ps generalizing qc with
  | nil => rfl
  | cons p ps ih =>
    obtain ⟨h1, h2⟩ := matchChunk_transparent keySem mono cacheMax p (hps p List.mem_cons_self) items full qc hinv
    simp only [runPats, List.map_cons]
    rw [h1, ih (fun q hq => hps q (List.mem_cons_of_mem _ hq)) _ h2]

/-- Discharges `mono` for fuzzy and for exact terms. -/
theorem subkeys_infix (k k' : Str) (h : k' ∈ subkeys k) : k' <:+: k := by
  obtain ⟨i, _, hi⟩ := List.mem_flatMap.mp h
  rcases List.mem_cons.mp hi with rfl | hi
  · exact (List.take_prefix _ _).isInfix
  · cases List.mem_singleton.mp hi
    exact (List.drop_suffix _ _).isInfix

/-! ### Merger cache of `Matcher.Loop` -/

/-- Every entry answers those of the requests still to come that it can be a hit for (its pattern,
    and the sort flag, revision and item count the cache is held for) as a scan would. -/
def LSInv {R : Type} (scan : SReq → R) (rs : List SReq) (st : LS R) : Prop :=
  ∀ e ∈ st.cache, ∀ q ∈ rs, q.sort = st.sort → q.rev = st.rev → q.count = st.prevCount → q.pat = e.1 →
    e.2.1 = scan q

/-- What makes two requests interchangeable for the scan. -/
def ScanExt {R : Type} (scan : SReq → R) : Prop :=
  ∀ a b : SReq, a.pat = b.pat → a.snap = b.snap → a.sort = b.sort → scan a = scan b

/-- Within one revision the list only grows (trimming for --tail, exclusions, nth changes and
    reloads all change the revision): two snapshots of one revision with the same number of
    items hold the same items. -/
def Valid (a b : SReq) : Prop := a.rev = b.rev → a.count = b.count → b.snap = a.snap

/-- Entering the scan of `r` among entries that are right for `r`'s sort flag, revision and item
    count. -/
theorem lsInv_insert {R : Type} {scan : SReq → R} (hext : ScanExt scan) (cacheable : R → Bool) {r : SReq}
    {rs : List SReq} (hv : ∀ q ∈ rs, Valid r q) {kept : List (Nat × R × Bool)}
    (hkept : LSInv scan rs { sort := r.sort, rev := r.rev, prevCount := r.count, cache := kept }) :
    LSInv scan rs
      { sort := r.sort, rev := r.rev, prevCount := r.count,
        cache := if cacheable (scan r) then (r.pat, scan r, r.final) :: kept.filter (·.1 != r.pat) else kept } := by
  intro e he
  split at he
  · rcases List.mem_cons.mp he with rfl | he
    · -- the new entry: a request it is a hit for has `r`'s pattern, sort flag and, being `Valid`, snapshot
      exact fun q hq hs hr hc hp => hext r q hp.symm (hv q hq hr.symm hc.symm).symm hs.symm
    · exact hkept e (List.mem_filter.mp he).1
  · exact hkept e he

theorem serve_transparent {R : Type} (scan : SReq → R) (hext : ScanExt scan) (cacheable : R → Bool)
    (rs : List SReq) (st : LS R) (r : SReq) (hinv : LSInv scan (r :: rs) st) (hv : ∀ q ∈ rs, Valid r q) :
    (serve scan cacheable st r).2 = scan r ∧ LSInv scan rs (serve scan cacheable st r).1 := by
  -- a changed sort flag or revision and a changed item count end the same way: nothing is kept
  have fresh := lsInv_insert hext cacheable hv (kept := []) nofun
  unfold serve
  cases hcl : (r.sort != st.sort || r.rev != st.rev) with
  | true => exact ⟨rfl, fresh⟩
  | false =>
    by_cases hc : r.count = st.prevCount
    · obtain ⟨hs, hr⟩ : r.sort = st.sort ∧ r.rev = st.rev := by
        simpa only [Bool.or_eq_false_iff, bne_eq_false_iff_eq] using hcl
      -- a hit is an entry for the request's pattern
      have hres : ((st.cache.find? fun e => e.1 == r.pat && e.2.2 == r.final).map (·.2.1)).getD (scan r) = scan r := by
        cases hf : st.cache.find? (fun e => e.1 == r.pat && e.2.2 == r.final) with
        | none => rfl
        | some e =>
          have hp : e.1 = r.pat := eq_of_beq (Bool.and_eq_true_iff.mp (List.find?_some hf :)).1
          exact hinv e (List.mem_of_find?_eq_some hf) r List.mem_cons_self hs hr hc hp.symm
      simp only [if_pos hc, Bool.false_eq_true, if_false, hres]
      -- the cache is kept: it is held for `r`'s sort flag, revision and count already
      exact ⟨trivial, lsInv_insert hext cacheable hv fun e he q hq h1 h2 h3 =>
        hinv e he q (List.mem_cons_of_mem _ hq) (h1.trans hs) (h2.trans hr) (h3.trans hc)⟩
    · simp only [if_neg hc]
      exact ⟨rfl, fresh⟩

/-- The requests of a history paired with what is published for them. -/
def servePairs {R : Type} (scan : SReq → R) (cacheable : R → Bool) (st : LS R) : List SReq → List (SReq × R)
  | [] => []
  | r :: rs => (r, (serve scan cacheable st r).2) :: servePairs scan cacheable (serve scan cacheable st r).1 rs

theorem servePairs_snd {R : Type} (scan : SReq → R) (cacheable : R → Bool) (st : LS R) (rs : List SReq) :
    (servePairs scan cacheable st rs).map (·.2) = serveAll scan cacheable st rs := by
  induction rs generalizing st with
  | nil => rfl
  | cons r rs ih => simp [servePairs, serveAll, ih]

theorem servePairs_transparent {R : Type} (scan : SReq → R) (hext : ScanExt scan) (cacheable : R → Bool)
    (rs : List SReq) (st : LS R) (hinv : LSInv scan rs st) (hpw : rs.Pairwise Valid) :
    ∀ x ∈ servePairs scan cacheable st rs, x.2 = scan x.1 := by
  induction rs generalizing st with
  | nil => intro x hx; cases hx
  | cons r rs ih =>
    obtain ⟨hr, hrs⟩ := List.pairwise_cons.mp hpw
    obtain ⟨h1, h2⟩ := serve_transparent scan hext cacheable rs st r hinv hr
    exact List.forall_mem_cons.mpr ⟨h1, ih _ h2 hrs⟩

end Fzf.Matcher
