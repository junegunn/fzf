import Fzf.Spec.Algo
/-
The greedy scan decides `List.Sublist`: proved once for a scan under an arbitrary "text character
matches pattern character" relation (`greedyBy_iff`); `Spec.isSubseq`, the scans of FuzzyMatchV1 and
phase 2 of V2, and the ASCII pre-filter are instances.
-/
namespace Fzf.Algo
open Fzf.Algo.Spec

variable {α β : Type}

/-- The greedy scan of the text `ts` for the pattern `ps`: `R c b` says that the text character `c` is accepted for
    the pattern character `b`. In the lemmas below `f` is the folding: `R c ·` holds exactly of `f c`. -/
def greedyBy (R : α → β → Bool) : List β → List α → Bool
  | [], _ => true
  | _ :: _, [] => false
  | b :: ps, c :: ts => if R c b then greedyBy R ps ts else greedyBy R (b :: ps) ts

theorem greedyBy_nil (R : α → β → Bool) (ps : List β) : greedyBy R ps [] = true ↔ ps = [] := by
  cases ps <;> simp [greedyBy]

theorem greedyBy_complete (R : α → β → Bool) (f : α → β) (ps : List β) (ts : List α)
    (hR : ∀ c ∈ ts, R c (f c) = true) (h : List.Sublist ps (ts.map f)) : greedyBy R ps ts = true := by
  fun_induction greedyBy R ps ts with
  | case1 => rfl  -- the pattern is used up
  | case2 => nomatch h  -- the text is used up first
  | case3 b ps c ts hr ih =>  -- `c` is accepted for `b`
    -- taking the first acceptable character loses nothing: an embedding that skips it still embeds the tail
    refine ih (fun c' hc' => hR c' (List.mem_cons_of_mem _ hc')) ?_
    cases h with
    | cons _ h' => exact (List.sublist_cons_self b ps).trans h'
    | cons_cons _ h' => exact h'
  | case4 b ps c ts hr ih =>  -- `c` is not accepted for `b`, so `f c` is not `b`
    refine ih (fun c' hc' => hR c' (List.mem_cons_of_mem _ hc')) ?_
    cases h with
    | cons _ h' => exact h'
    | cons_cons _ h' => exact absurd (hR c List.mem_cons_self) hr

theorem greedyBy_sound (R : α → β → Bool) (f : α → β) (ps : List β) (ts : List α)
    (hR : ∀ c ∈ ts, ∀ b, R c b = true → f c = b) (h : greedyBy R ps ts = true) : List.Sublist ps (ts.map f) := by
  fun_induction greedyBy R ps ts with
  | case1 => exact List.nil_sublist _  -- the pattern is used up
  | case2 => nomatch h  -- the text is used up first
  | case3 b ps c ts hr ih =>  -- `c` is accepted for `b`, so `f c` is `b`
    rw [List.map_cons, hR c List.mem_cons_self b hr]
    exact (ih (fun c' hc' => hR c' (List.mem_cons_of_mem _ hc')) h).cons_cons b
  | case4 b ps c ts hr ih =>  -- `c` is skipped
    exact (ih (fun c' hc' => hR c' (List.mem_cons_of_mem _ hc')) h).cons _

theorem greedyBy_iff (R : α → β → Bool) (f : α → β) (ps : List β) (ts : List α)
    (hR : ∀ c ∈ ts, ∀ b, R c b = true ↔ f c = b) :
    greedyBy R ps ts = true ↔ List.Sublist ps (ts.map f) :=
  ⟨greedyBy_sound R f ps ts fun c hc b => (hR c hc b).mp, greedyBy_complete R f ps ts fun c hc => (hR c hc _).mpr rfl⟩

theorem greedyBy_cons_findIdx (R : α → β → Bool) (b : β) (ps : List β) (l : List α) :
    greedyBy R (b :: ps) l = match l.findIdx? (R · b) with
      | none => false
      | some i => greedyBy R ps (l.drop (i + 1)) := by
  induction l with
  | nil => rfl
  | cons x l ih =>
    rw [greedyBy, List.findIdx?_cons]
    cases hx : R x b
    · rw [if_neg Bool.false_ne_true, ih]
      cases l.findIdx? (R · b) <;> rfl
    · rfl

theorem isSubseq_eq_greedyBy (p t : List Nat) : isSubseq p t = greedyBy (fun c b => b == c) p t := by
  fun_induction isSubseq p t with  -- the two functions have the same four equations
  | case1 t => cases t <;> rfl
  | case2 => rfl
  | case3 a ps b ts h ih => rw [greedyBy, if_pos h, ih]
  | case4 a ps b ts h ih => rw [greedyBy, if_neg h, ih]

theorem Spec.isSubseq_iff (p t : List Nat) : isSubseq p t = true ↔ List.Sublist p t := by
  rw [isSubseq_eq_greedyBy]
  simpa only [List.map_id] using greedyBy_iff (fun c b => b == c) id p t fun c _ b => beq_iff_eq.trans eq_comm

end Fzf.Algo
