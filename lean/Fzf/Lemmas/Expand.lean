import Fzf.Lemmas.Quote
import Fzf.Model.Placeholder
/-
Every expanded part of a command template is `Clean`: a literal word of plain characters is passed on as
it is, a placeholder becomes quoted texts joined by blanks. Defines what `C12_template_evaluates` is stated with:
`plainChar`, and the template parts `Part` with `Part.text`, `Part.denote`, `Part.ok`.
-/
namespace Fzf.Placeholder
open Fzf Fzf.Quote Fzf.ShEval

/-- A character that is neither a blank, a quote, a backslash nor special to the shell. -/
def plainChar (c : Nat) : Bool := !(isBlank c || isMeta c || c == 39 || c == 92)

theorem eval_plain_char (c : Nat) (hc : plainChar c = true) (rest : Str) (ws : List Str) (cur : Option Str) :
    eval (c :: rest) false ws cur = eval rest false ws (some (c :: cur.getD [])) := by
  simp only [plainChar, Bool.not_eq_true', Bool.or_eq_false_iff, beq_eq_false_iff_ne] at hc
  obtain ⟨⟨⟨hb, hm⟩, hq⟩, hbs⟩ := hc
  cases cur <;> simp [eval, hq, hbs, hb, hm]

theorem eval_plain (c : Nat) (w : Str) (hw : ∀ d ∈ c :: w, plainChar d = true) (rest : Str) (ws : List Str)
    (cur : Option Str) :
    eval (c :: w ++ rest) false ws cur = eval rest false ws (some ((c :: w).reverse ++ cur.getD [])) := by
  induction w generalizing c cur with
  | nil => exact eval_plain_char c (hw c List.mem_cons_self) rest ws cur
  | cons d w ih =>
    rw [List.cons_append, eval_plain_char c (hw c List.mem_cons_self),
      ih d (fun x hx => hw x (List.mem_cons_of_mem _ hx)), List.reverse_cons (a := c), List.append_assoc]
    rfl

theorem clean_plain (w : Str) (hne : w ≠ []) (hw : ∀ c ∈ w, plainChar c = true) : Clean w [w] := by
  cases w with
  | nil => exact absurd rfl hne
  | cons c w => exact clean_of_word (eval_plain c w hw)

/-- The parts of a template `C12_template_evaluates` speaks about. -/
inductive Part where
  | cur            -- {}
  | plus           -- {+}
  | query          -- {q}
  | escaped        -- \{} : stays the two characters {}
  | lit (w : Str)  -- a literal word of plain characters
deriving Repr

def Part.text : Part → Str
  | .cur => [123, 125]
  | .plus => [123, 43, 125]
  | .query => [123, 113, 125]
  | .escaped => [92, 123, 125]
  | .lit w => w

/-- What a part stands for. -/
def Part.denote (cx : Ctx) : Part → List Str
  | .cur => cx.current.toList.map (·.1)
  | .plus => cx.selected.map (·.1)
  | .query => [cx.query]
  | .escaped => []        -- not a word of data: see `Part.ok`
  | .lit w => [w]

/-- Literal words must be non-empty and plain; escaped placeholders are outside the statement
    (they are left literal, and `{` `}` then are the template author's own shell syntax). -/
def Part.ok : Part → Prop
  | .lit w => w ≠ [] ∧ (∀ c ∈ w, plainChar c = true) ∧ w.head? ≠ some 92 ∧ w.head? ≠ some 123
  | .escaped => False
  | _ => True

theorem expandPart_of_head (cx : Ctx) (w : Str) (h92 : w.head? ≠ some 92) (h123 : w.head? ≠ some 123) :
    expandPart cx w = w := by
  unfold expandPart
  split
  · simp at h92
  · simp at h123
  · rfl

theorem expandPart_clean (cx : Ctx) (p : Part) (hp : p.ok) : Clean (expandPart cx p.text) (p.denote cx) := by
  cases p with
  -- the three placeholders are concrete strings: `parseFlags` and the comparisons evaluate
  | cur => exact clean_items Prod.fst cx.current.toList
  | plus => exact clean_items Prod.fst cx.selected
  | query => exact clean_quote cx.query
  | escaped => exact hp.elim
  | lit w =>
    obtain ⟨hne, hplain, h92, h123⟩ := hp
    show Clean (expandPart cx w) [w]
    rw [expandPart_of_head cx w h92 h123]
    exact clean_plain w hne hplain

end Fzf.Placeholder
