import Fzf.Base.Str
/-
Lemmas about the string functions of `Fzf/Base/Str.lean` (`lastN`, `trimLeft`, `trimRight`, `splitOn`,
`joinWith`), shared by the history, chunk-list, renderer and query-syntax proofs.
-/
namespace Fzf

theorem lastN_length (n : Nat) (l : List α) : (lastN n l).length = min n l.length := by
  rw [lastN, List.length_drop, Nat.sub_sub_eq_min, Nat.min_comm]

theorem lastN_suffix (n : Nat) (l : List α) : lastN n l <:+ l := List.drop_suffix _ _

theorem lastN_of_length_le (n : Nat) (l : List α) (h : l.length ≤ n) : lastN n l = l := by
  rw [lastN, Nat.sub_eq_zero_of_le h]; rfl

/-- `lastN` is `take` from the other end, and its laws are `take`'s mirrored: `lastN_append` is
    `List.take_append`, `lastN_lastN` is `List.take_take`. -/
theorem lastN_eq_reverse_take (n : Nat) (l : List α) : lastN n l = (l.reverse.take n).reverse := by
  rw [List.reverse_take, List.reverse_reverse, List.length_reverse]; rfl

theorem lastN_append (n : Nat) (a b : List α) : lastN n (a ++ b) = lastN (n - b.length) a ++ lastN n b := by
  simp only [lastN_eq_reverse_take, List.reverse_append, List.take_append, List.length_reverse]

theorem lastN_lastN (k m : Nat) (l : List α) : lastN k (lastN m l) = lastN (min k m) l := by
  simp only [lastN_eq_reverse_take, List.reverse_reverse, List.take_take]

theorem lastN_append_of_le_length (n : Nat) (p l : List α) (hn : n ≤ l.length) : lastN n (p ++ l) = lastN n l := by
  rw [lastN_append, Nat.sub_eq_zero_of_le hn, lastN, Nat.sub_zero, List.drop_length, List.nil_append]

theorem lastN_append_right (n : Nat) (a b : List α) (h : b.length ≤ n) :
    lastN n (a ++ b) = lastN (n - b.length) a ++ b := by
  rw [lastN_append, lastN_of_length_le n b h]

/-- Trimming to the last `m` commutes with appending. -/
theorem lastN_lastN_append (m : Nat) (a b : List α) :
    lastN m (lastN m a ++ b) = lastN m (a ++ b) := by
  rw [lastN_append, lastN_lastN, Nat.min_eq_left (Nat.sub_le _ _), ← lastN_append]

theorem trimLeft_of_prefix {e s : Str} (c : Nat) (hp : e <+: s) (hne : e ≠ []) (hc : c ∉ e) :
    trimLeft c s = s := by
  obtain ⟨r, rfl⟩ := hp
  cases e with
  | nil => exact absurd rfl hne
  | cons x t => exact List.dropWhile_cons_of_neg (by simpa using (List.ne_of_not_mem_cons hc).symm)

theorem trimRight_of_suffix {e s : Str} (c : Nat) (hs : e <:+ s) (hne : e ≠ []) (hc : c ∉ e) :
    trimRight c s = s := by
  rw [trimRight, ← trimLeft, trimLeft_of_prefix c hs.reverse (by simpa using hne) (by simpa using hc),
    List.reverse_reverse]

theorem trimRight_concat_self (c : Nat) (s : Str) : trimRight c (s ++ [c]) = trimRight c s := by
  simp [trimRight]

theorem splitOn_ne_nil (sep : Nat) (s : Str) : splitOn sep s ≠ [] := by
  cases s with
  | nil => simp [splitOn]
  | cons c cs =>
    unfold splitOn
    split
    · simp
    · split <;> simp

theorem splitOn_append_sep (sep : Nat) (e r : Str) (he : sep ∉ e) :
    splitOn sep (e ++ sep :: r) = e :: splitOn sep r := by
  induction e with
  | nil => simp [splitOn]
  | cons c cs ih =>
    have hc : c ≠ sep := fun h => he (by simp [h])
    simp [splitOn, hc, ih (fun h => he (List.mem_cons_of_mem _ h))]

theorem splitOn_of_not_mem (sep : Nat) (e : Str) (he : sep ∉ e) : splitOn sep e = [e] := by
  induction e with
  | nil => rfl
  | cons c cs ih =>
    have hc : c ≠ sep := fun h => he (by simp [h])
    simp [splitOn, hc, ih (fun h => he (List.mem_cons_of_mem _ h))]

theorem joinWith_cons_ne (sep : Nat) (x : Str) (l : List Str) (h : l ≠ []) :
    joinWith sep (x :: l) = x ++ sep :: joinWith sep l := by
  cases l with
  | nil => exact absurd rfl h
  | cons y r => rfl

theorem joinWith_cons_append (sep : Nat) (a b : Str) (l : List Str) :
    joinWith sep ((a ++ b) :: l) = a ++ joinWith sep (b :: l) := by
  cases l with
  | nil => rfl
  | cons y r => exact List.append_assoc a b _

theorem head_prefix_joinWith (sep : Nat) (es : List Str) (hne : es ≠ []) :
    es.head hne <+: joinWith sep es :=
  match es, hne with
  | [e], _ => List.prefix_refl e
  | e :: _ :: _, _ => List.prefix_append e _

theorem getLast_suffix_joinWith (sep : Nat) (es : List Str) (hne : es ≠ []) :
    es.getLast hne <:+ joinWith sep es := by
  induction es with
  | nil => exact absurd rfl hne
  | cons e es ih =>
    cases es with
    | nil => exact List.suffix_refl e
    | cons e' r => exact (ih (by simp)).trans ((List.suffix_cons sep _).trans (List.suffix_append e _))

theorem joinWith_append (sep : Nat) (l1 l2 : List Str) (h1 : l1 ≠ []) (h2 : l2 ≠ []) :
    joinWith sep (l1 ++ l2) = joinWith sep l1 ++ sep :: joinWith sep l2 := by
  induction l1 with
  | nil => exact absurd rfl h1
  | cons x r ih =>
    by_cases hr : r = []
    · subst hr; exact joinWith_cons_ne sep x l2 h2
    · rw [List.cons_append, joinWith_cons_ne sep x (r ++ l2) (by simp [hr]), ih hr, joinWith_cons_ne sep x r hr,
        List.append_assoc, List.cons_append]

theorem joinWith_flatten (sep : Nat) (ls : List (List Str)) (h : ∀ l ∈ ls, l ≠ []) :
    joinWith sep (ls.map (joinWith sep)) = joinWith sep ls.flatten := by
  induction ls with
  | nil => rfl
  | cons l r ih =>
    have hl := h l List.mem_cons_self
    have hr := ih (fun x hx => h x (List.mem_cons_of_mem _ hx))
    by_cases hre : r = []
    · subst hre; simp [joinWith]
    · obtain ⟨y, hy⟩ := List.exists_mem_of_ne_nil r hre
      have hfl : r.flatten ≠ [] := fun e => h y (List.mem_cons_of_mem _ hy) (List.flatten_eq_nil_iff.mp e y hy)
      rw [List.map_cons, joinWith_cons_ne sep _ _ (by simp [hre]), hr, List.flatten_cons, joinWith_append sep l r.flatten hl hfl]

theorem joinWith_snoc_nil (sep : Nat) (es : List Str) :
    joinWith sep (es ++ [[]]) = es.flatMap (· ++ [sep]) := by
  induction es with
  | nil => rfl
  | cons e es ih =>
    rw [List.cons_append, joinWith_cons_ne sep e _ (by simp), ih, List.flatMap_cons, List.append_assoc, List.singleton_append]

theorem splitOn_joinWith (sep : Nat) (es : List Str) (hne : es ≠ [])
    (hfree : ∀ e ∈ es, sep ∉ e) : splitOn sep (joinWith sep es) = es := by
  induction es with
  | nil => exact absurd rfl hne
  | cons e es ih =>
    cases es with
    | nil => exact splitOn_of_not_mem sep e (hfree e (by simp))
    | cons e' es' =>
      rw [joinWith, splitOn_append_sep sep e _ (hfree e (by simp)),
        ih (by simp) (fun x hx => hfree x (List.mem_cons_of_mem _ hx))]

end Fzf
