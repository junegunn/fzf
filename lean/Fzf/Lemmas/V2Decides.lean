import Fzf.Lemmas.Algo
import Fzf.Lemmas.Subseq
import Fzf.Lemmas.List
/-
C02, FuzzyMatchV2: phase 2 moves its pattern cursor like the greedy subsequence test, and V2's own
character folding is the folding of the other matchers.
-/
namespace Fzf.Algo

/-- What phase 2 maintains about the pattern cursor. -/
structure P2Inv (p : Text) (st : P2) : Prop where
  pchar : st.pidx < p.size → st.pchar = p.getD st.pidx 0
  le : st.pidx ≤ p.size
  stop : st.stop = true → st.pidx = p.size

/-- The pattern cursor after one more (folded) character: greedy. -/
def cursorAfter (p : Text) (pidx c : Nat) : Nat :=
  if pidx < p.size ∧ c = p.getD pidx 0 then pidx + 1 else pidx

theorem cursorAfter_le {p : Text} {k : Nat} (c : Nat) (hk : k ≤ p.size) : cursorAfter p k c ≤ p.size := by
  unfold cursorAfter
  split
  · next h => exact h.1
  · exact hk

/-- The single-character shortcut: for a pattern of one character, that character puts the cursor at the end. -/
theorem cursorAfter_one {p : Text} {k c : Nat} (hk : k ≤ p.size) (h1 : p.size = 1) (hc : c = p.getD 0 0) :
    cursorAfter p k c = p.size := by
  unfold cursorAfter
  split
  · omega
  · next hn => exact Nat.le_antisymm hk (Nat.not_lt.mp fun hlt => hn ⟨hlt, by rw [show k = 0 by omega]; exact hc⟩)

theorem phase2Step_inv (cfg : Cfg) (cs norm fwd : Bool) (p : Text) (st : P2) (c0 : Nat)
    (h : P2Inv p st) :
    P2Inv p (phase2Step cfg cs norm fwd p st c0) ∧
    (phase2Step cfg cs norm fwd p st c0).pidx = cursorAfter p st.pidx (v2Fold cfg cs norm c0).2 := by
  obtain ⟨hpc, hle, hstop⟩ := h
  unfold phase2Step
  extract_lets m pchar0 off fc cls c bonus s0 sAdv s1 score s2 s3 gap
  by_cases hs : st.stop = true
  · -- after `break` nothing moves, and the cursor is at the end of the pattern
    have hm := hstop hs
    rw [if_pos hs]
    exact ⟨⟨fun hlt => absurd hlt (hm ▸ Nat.lt_irrefl _), hle, fun _ => hm⟩, (if_neg fun h => Nat.ne_of_lt h.1 hm).symm⟩
  · rw [if_neg hs]
    have hs' : st.stop = false := by simpa using hs
    -- `s1` is the state once the cursor has moved (`sAdv`: the model's inner `s`, before `lastIdx` is set)
    have hcur : (s1.pidx < p.size → s1.pchar = p.getD s1.pidx 0) ∧ s1.pidx = cursorAfter p st.pidx c ∧ s1.stop = false := by
      unfold cursorAfter
      by_cases hit : st.pidx < p.size ∧ c = p.getD st.pidx 0
      · have hc : c = st.pchar := hit.2.trans (hpc hit.1).symm
        rw [if_pos hit]
        simp only [s1, sAdv, s0, m, hc, hit.1, beq_self_eq_true, if_true, hs', and_true]
        exact fun hlt => by rw [Nat.min_eq_left (Nat.le_sub_one_of_lt hlt)]
      · rw [if_neg hit]
        by_cases hc : c = st.pchar
        · -- with the cursor at the end `pchar` is stale: a character equal to it moves nothing
          have hlt : ¬ st.pidx < p.size := fun hlt => hit ⟨hlt, hc.trans (hpc hlt)⟩
          simp only [s1, sAdv, s0, m, hc, hlt, beq_self_eq_true, if_true, if_false, hs', and_true]
          exact False.elim
        · have hcb : (c == st.pchar) = false := by simpa using hc
          simp only [s1, s0, hcb, Bool.false_eq_true, if_false, hs', and_true]
          exact hpc
    obtain ⟨hpc1, hpidx1, hstop1⟩ := hcur
    have hle1 : s1.pidx ≤ p.size := hpidx1 ▸ cursorAfter_le c hle
    have hst1 : s1.stop = true → s1.pidx = p.size := fun h => by rw [hstop1] at h; cases h
    -- scoring: every branch copies the cursor from `s1`; `stop` is set only under the shortcut. The three
    -- `if`s, from the outside: the character is the first pattern character; the pattern has one character
    -- and this is a new best score; scanning forward on a boundary bonus (the `break` that sets `stop`)
    let Keeps (r : P2) : Prop := P2Inv p r ∧ r.pidx = cursorAfter p st.pidx c
    refine iteInduction (motive := Keeps) (fun hc0 => ?_) fun _ => ⟨⟨hpc1, hle1, hst1⟩, hpidx1⟩
    refine iteInduction (motive := Keeps) (fun hm => ?_) fun _ => ⟨⟨hpc1, hle1, hst1⟩, hpidx1⟩
    refine iteInduction (motive := Keeps) (fun _ => ?_) fun _ => ⟨⟨hpc1, hle1, hst1⟩, hpidx1⟩
    -- the shortcut sets `stop`: a pattern of one character, and this character is it
    exact ⟨⟨hpc1, hle1, fun _ => hpidx1.trans (cursorAfter_one hle (beq_iff_eq.mp ((Bool.and_eq_true _ _).mp hm).1) (beq_iff_eq.mp hc0))⟩, hpidx1⟩

theorem greedyBy_drop_cons (f : Nat → Nat) (p : Text) (k c : Nat) (l : List Nat) :
    greedyBy (fun c b => f c == b) (p.toList.drop k) (c :: l) =
      greedyBy (fun c b => f c == b) (p.toList.drop (cursorAfter p k (f c))) l := by
  unfold cursorAfter
  by_cases hlt : k < p.size
  · have hd := Array.toList_drop_getD p 0 k hlt
    rw [hd, greedyBy]
    by_cases hc : f c = p.getD k 0
    · rw [if_pos (beq_iff_eq.mpr hc), if_pos ⟨hlt, hc⟩]
    · rw [if_neg fun h => hc (beq_iff_eq.mp h), if_neg fun h => hc h.2, hd]
  · rw [if_neg fun h => hlt h.1, List.drop_eq_nil_of_le (by simp; omega)]
    cases l <;> rfl

theorem phase2_fold_iff (cfg : Cfg) (cs norm fwd : Bool) (p : Text) (l : List Nat) (st : P2) (h : P2Inv p st) :
    (l.foldl (phase2Step cfg cs norm fwd p) st).pidx = p.size ↔
      greedyBy (fun c b => (v2Fold cfg cs norm c).2 == b) (p.toList.drop st.pidx) l = true := by
  induction l generalizing st with
  | nil =>
    rw [greedyBy_nil, List.drop_eq_nil_iff]
    exact ⟨Nat.le_of_eq ∘ Eq.symm, Nat.le_antisymm h.le⟩
  | cons c l ih =>
    obtain ⟨h1, h2⟩ := phase2Step_inv cfg cs norm fwd p st c h
    rw [List.foldl_cons, ih _ h1, h2, greedyBy_drop_cons]

theorem phase2_pidx_iff (cfg : Cfg) (cs norm fwd : Bool) (win : Array Nat) (p : Text) :
    (phase2 cfg cs norm fwd win p).pidx = p.size ↔
      List.Sublist p.toList (win.toList.map fun c => (v2Fold cfg cs norm c).2) := by
  unfold phase2
  rw [phase2_fold_iff cfg cs norm fwd p win.toList _
    { pchar := fun _ => rfl, le := Nat.zero_le _, stop := fun h => nomatch (h : false = true) }]
  exact greedyBy_iff _ _ _ _ fun c _ b => beq_iff_eq

/-- V2's own folding of a character agrees with the folding the other matchers use. -/
theorem v2Fold_eq_foldRune (cfg : Cfg) (cs norm : Bool) (hnorm : ∀ c, c < 128 → cfg.norm c = c) (c : Nat) :
    (v2Fold cfg cs norm c).2 = foldRune cfg cs norm c := by
  unfold v2Fold
  by_cases hc : c ≤ 127
  · rw [if_pos hc, foldRune_ascii cfg cs norm hnorm c (by omega)]
    cases cs
    · simp only [Bool.not_false, Bool.true_and, beq_iff_eq, asciiClass_eq_upper, Bool.false_eq_true, if_false]
    · rfl
  · rw [if_neg hc]
    unfold foldRune lowerRune
    have h1 : ¬ (65 ≤ c ∧ c ≤ 90) := by omega
    have h2 : c > 127 := by omega
    cases cs <;> simp only [h1, h2, Bool.not_false, Bool.not_true, Bool.false_eq_true, if_true, if_false]

end Fzf.Algo
