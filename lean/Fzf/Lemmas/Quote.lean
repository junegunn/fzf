import Fzf.Model.Quote
import Fzf.Spec.ShEval
/-
What the shell model (`ShEval.eval`, `fishQuoted`) makes of a quoted text, one character at a time; and
`Clean seg ds`: the piece `seg` of a command line evaluates to the words `ds`. Quoted texts are clean,
blank-joined clean pieces are clean.
-/
namespace Fzf.Quote
open Fzf Fzf.ShEval

theorem eval_open (rest : Str) (ws : List Str) (cur : Option Str) :
    eval (39 :: rest) false ws cur = eval rest true ws (some (cur.getD [])) := rfl

theorem eval_blank (rest : Str) (ws : List Str) (w : Str) :
    eval (32 :: rest) false ws (some w) = eval rest false (w.reverse :: ws) none := rfl

theorem eval_blank_none (rest : Str) (ws : List Str) :
    eval (32 :: rest) false ws none = eval rest false ws none := rfl

theorem eval_nil_some (ws : List Str) (w : Str) :
    eval [] false ws (some w) = some (ws.reverse ++ [w.reverse]) :=
  congrArg some List.reverse_cons

/-- Inside a quote, the escape of one character appends that character. -/
theorem eval_esc_char (c : Nat) (rest : Str) (ws : List Str) (cur : Str) :
    eval ((if c = 39 then [39, 92, 39, 39] else [c]) ++ rest) true ws (some cur) =
      eval rest true ws (some (c :: cur)) := by
  split
  · subst c; rfl  -- `'\''`: the quote closes, `\'` is the character, a quote opens again
  · next h => exact if_neg h

theorem eval_escPosix (s rest : Str) (ws : List Str) (cur : Str) :
    eval (escPosix s ++ 39 :: rest) true ws (some cur) = eval rest false ws (some (s.reverse ++ cur)) := by
  induction s generalizing cur with
  | nil => rfl
  | cons c cs ih =>
    show eval ((if c = 39 then [39, 92, 39, 39] else [c]) ++ escPosix cs ++ 39 :: rest) true ws (some cur) = _
    rw [List.append_assoc, eval_esc_char, ih, List.reverse_cons, List.append_assoc]; rfl

theorem eval_quoteEntry (s rest : Str) (ws : List Str) (cur : Option Str) :
    eval (quoteEntry s ++ rest) false ws cur = eval rest false ws (some (s.reverse ++ cur.getD [])) := by
  simp only [quoteEntry, List.cons_append, List.append_assoc, List.nil_append]
  rw [eval_open, eval_escPosix]

/-- `seg` evaluates — where no word is open — to the words `ds`, at the end of the command line
    and before a blank followed by anything. -/
structure Clean (seg : Str) (ds : List Str) : Prop where
  atEnd : ∀ ws, eval seg false ws none = some (ws.reverse ++ ds)
  beforeBlank : ∀ rest ws, eval (seg ++ 32 :: rest) false ws none = eval rest false (ds.reverse ++ ws) none

theorem Clean.words {seg : Str} {ds : List Str} (h : Clean seg ds) : words seg = some ds := h.atEnd []

theorem clean_nil : Clean [] [] :=
  ⟨fun _ => congrArg some (List.append_nil _).symm, eval_blank_none⟩

/-- A segment that, whatever follows, adds `w` to the word being read is the one word `w`. -/
theorem clean_of_word {seg w : Str}
    (h : ∀ rest ws cur, eval (seg ++ rest) false ws cur = eval rest false ws (some (w.reverse ++ cur.getD []))) :
    Clean seg [w] := by
  have h' rest ws : eval (seg ++ rest) false ws none = eval rest false ws (some w.reverse) :=
    (h rest ws none).trans (by rw [Option.getD_none, List.append_nil])
  refine ⟨fun ws => ?_, fun rest ws => ?_⟩
  · rw [← List.append_nil seg, h', eval_nil_some, List.reverse_reverse]
  · rw [h', eval_blank, List.reverse_reverse]; rfl

theorem clean_quote (s : Str) : Clean (quoteEntry s) [s] :=
  clean_of_word (eval_quoteEntry s)

theorem clean_append {a b : Str} {da db : List Str} (ha : Clean a da) (hb : Clean b db) :
    Clean (a ++ 32 :: b) (da ++ db) := by
  refine ⟨fun ws => ?_, fun rest ws => ?_⟩
  · rw [ha.beforeBlank b ws, hb.atEnd]; simp
  · rw [List.append_assoc, List.cons_append, ha.beforeBlank, hb.beforeBlank]; simp

/-- Clean pieces joined by blanks evaluate to their words, piece after piece (a piece may be empty). -/
theorem clean_joinWith {f : α → Str} {g : α → List Str} (xs : List α) (h : ∀ x ∈ xs, Clean (f x) (g x)) :
    Clean (joinWith 32 (xs.map f)) (xs.flatMap g) := by
  induction xs with
  | nil => exact clean_nil
  | cons x r ih =>
    have hx := h x List.mem_cons_self
    have hr := ih fun z hz => h z (List.mem_cons_of_mem _ hz)
    cases r with
    | nil => rwa [List.flatMap_singleton]
    | cons y r => exact clean_append hx hr

theorem clean_items (f : α → Str) (xs : List α) :
    Clean (joinWith 32 (xs.map fun x => quoteEntry (f x))) (xs.map f) := by
  have := clean_joinWith xs fun x _ => clean_quote (f x)
  rwa [← List.map_eq_flatMap] at this

/-- fish, inside the quotes: the escape of one character appends that character. -/
theorem fishQuoted_go_esc_char (c : Nat) (tl acc : Str) :
    fishQuoted.go ((if c = 92 then [92, 92] else if c = 39 then [92, 39] else [c]) ++ tl) acc =
      fishQuoted.go tl (c :: acc) := by
  split
  · subst c; rfl
  · split
    · subst c; rfl
    · simp [fishQuoted.go, *]

theorem fishQuoted_go_escFish (s : Str) (acc : Str) :
    fishQuoted.go (escFish s ++ [39]) acc = some (acc.reverse ++ s) := by
  induction s generalizing acc with
  | nil => rw [List.append_nil]; rfl
  | cons c cs ih =>
    show fishQuoted.go ((if c = 92 then [92, 92] else if c = 39 then [92, 39] else [c]) ++ escFish cs ++ [39]) acc = _
    rw [List.append_assoc, fishQuoted_go_esc_char, ih, List.reverse_cons, List.append_assoc]; rfl

end Fzf.Quote
