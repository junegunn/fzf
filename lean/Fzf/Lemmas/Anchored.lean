import Fzf.Lemmas.Score
/-
PrefixMatch, SuffixMatch and EqualMatch: each returns, reports a match exactly when the term occurs
at the one offset the anchor allows, and reports that occurrence (prefix and suffix: with its
documented score). `OccAt ok t p off` is "the term occurs at offset `off`" under a character comparison
`ok`; `suffixEnd` is where the text ends for SuffixMatch.
-/
namespace Fzf.Algo

theorem cmpAt_eq_all (ok : Nat → Nat → Bool) (t p : Text) (off : Nat) (is : List Nat)
    (h : ∀ i ∈ is, off + i < t.size) :
    cmpAt ok t p off is = .ok (is.all fun i => ok (t.getD (off + i) 0) (p.getD i 0)) := by
  induction is with
  | nil => rfl
  | cons i is ih =>
    rw [cmpAt, get_ok t (off + i) (h i List.mem_cons_self), List.all_cons]
    show (if _ then cmpAt ok t p off is else _) = _
    rw [ih fun j hj => h j (List.mem_cons_of_mem _ hj)]
    cases ok (t.getD (off + i) 0) (p.getD i 0) <;> rfl

/-- The term occurs in the text at offset `off`, character by character, under `ok`. -/
def OccAt (ok : Nat → Nat → Bool) (t p : Text) (off : Nat) : Prop :=
  off + p.size ≤ t.size ∧ ∀ i, i < p.size → ok (t.getD (off + i) 0) (p.getD i 0) = true

theorem cmpAt_occ (ok : Nat → Nat → Bool) (t p : Text) (off : Nat) (h : off + p.size ≤ t.size) :
    Post (fun b => b = true ↔ OccAt ok t p off) (cmpAt ok t p off (List.range p.size)) := by
  rw [cmpAt_eq_all ok t p off _ fun i hi => by have := List.mem_range.mp hi; omega]
  exact post_ok.mpr (by simp only [OccAt, h, true_and, List.all_eq_true, List.mem_range])

/-- A matcher that answers `r₁` (a match) when `P` holds and "no match" otherwise: it returns, it
    reports a match exactly when `P`, and what it reports is `r₁`. -/
theorem decides_of_cases {x : M Res} {P : Prop} {r₁ : Res} (hs : 0 ≤ r₁.start)
    (h1 : P → x = .ok r₁) (h0 : ¬ P → x = .ok Res.none) :
    Post (fun r => (0 ≤ r.start ↔ P) ∧ (0 ≤ r.start → r = r₁)) x := by
  by_cases hP : P
  · exact h1 hP ▸ post_ok.mpr ⟨iff_of_true hs hP, fun _ => rfl⟩
  · exact h0 hP ▸ post_ok.mpr ⟨iff_of_false Res.none_start hP, fun h => absurd h Res.none_start⟩

/-- An occurrence under the folding of PrefixMatch / SuffixMatch is one under the folding
    `calculateScore` applies. -/
theorem OccAt.foldRune {cfg : Cfg} {cs norm : Bool} {t p : Text} {off : Nat}
    (h : OccAt (fun c pc => foldTL cfg cs norm c == pc) t p off) :
    ∀ i, i < p.size → foldRune cfg cs norm (t.getD (off + i) 0) = p.getD i 0 := fun i hi => by
  have : (foldTL cfg cs norm (t.getD (off + i) 0) == p.getD i 0) = true := h.2 i hi
  rwa [foldTL_eq_foldRune, beq_iff_eq] at this

/-- PrefixMatch returns; it reports a match exactly when the term occurs at `off`, and then that occurrence with
    its documented score. `off` is where the anchor puts the term: after the leading whitespace, unless the term
    itself begins with whitespace (a variable tied by `hoff`, for which callers pass `rfl`, so that no step of
    the proof carries the `if`). -/
theorem prefixMatch_spec (cfg : Cfg) (cs norm : Bool) (t p : Text) (hp : 0 < p.size) {off : Nat}
    (hoff : (if !cfg.U.isSpace (p.getD 0 0) then leadingWhitespaces cfg t else 0) = off) :
    Post (fun r => (0 ≤ r.start ↔ OccAt (fun c pc => foldTL cfg cs norm c == pc) t p off) ∧
        (0 ≤ r.start → r = ⟨off, off + p.size, occScore cfg t off p.size, Option.none⟩))
      (prefixMatch cfg cs norm t p) := by
  unfold prefixMatch
  simp only [size_beq_zero hp, Bool.false_eq_true, if_false, hoff]
  by_cases hlen : (t.size : Int) - off < p.size
  · rw [if_pos hlen]
    exact decides_of_cases (Int.natCast_nonneg _) (fun h => absurd h.1 (by omega)) fun _ => rfl
  · rw [if_neg hlen]
    obtain ⟨b, hb, hiff⟩ := cmpAt_occ (fun c pc => foldTL cfg cs norm c == pc) t p off (by omega)
    rw [hb]
    refine decides_of_cases (Int.natCast_nonneg _) (fun h => ?_) fun h => ?_
    · rw [hiff.mpr h]
      rw [calculateScore_occ cfg cs norm t p off h.1 h.foldRune]
      rfl
    · rw [Bool.eq_false_iff.mpr (mt hiff.mp h)]; rfl

/-- Where the text ends for SuffixMatch: before the trailing whitespace, unless the term itself
    ends with whitespace. -/
def suffixEnd (cfg : Cfg) (t p : Text) : Nat :=
  if !cfg.U.isSpace (p.getD (p.size - 1) 0) then t.size - trailingWhitespaces cfg t else t.size

theorem suffixEnd_le (cfg : Cfg) (t p : Text) : suffixEnd cfg t p ≤ t.size := by
  unfold suffixEnd; split <;> omega

/-- SuffixMatch returns; it reports a match exactly when the term fits before `suffixEnd` and occurs ending
    there, and then that occurrence with its documented score. -/
theorem suffixMatch_spec (cfg : Cfg) (cs norm : Bool) (t p : Text) (hp : 0 < p.size) :
    Post (fun r => (0 ≤ r.start ↔ p.size ≤ suffixEnd cfg t p ∧
          OccAt (fun c pc => foldTL cfg cs norm c == pc) t p (suffixEnd cfg t p - p.size)) ∧
        (0 ≤ r.start → r = ⟨(suffixEnd cfg t p - p.size : Nat), (suffixEnd cfg t p : Nat),
          occScore cfg t (suffixEnd cfg t p - p.size) p.size, Option.none⟩))
      (suffixMatch cfg cs norm t p) := by
  unfold suffixMatch
  simp only [size_beq_zero hp, Bool.false_or, Bool.false_eq_true, if_false]
  have hle := suffixEnd_le cfg t p
  rw [show (if (!cfg.U.isSpace (p.getD (p.size - 1) 0)) = true then t.size - trailingWhitespaces cfg t else t.size)
    = suffixEnd cfg t p from rfl]
  generalize suffixEnd cfg t p = te at *
  by_cases hlen : te < p.size
  · rw [if_pos hlen]
    exact decides_of_cases (Int.natCast_nonneg _) (fun h => absurd h.1 (by omega)) fun _ => rfl
  · rw [if_neg hlen]
    obtain ⟨b, hb, hiff⟩ := cmpAt_occ (fun c pc => foldTL cfg cs norm c == pc) t p (te - p.size) (by omega)
    rw [hb]
    refine decides_of_cases (Int.natCast_nonneg _) (fun h => ?_) fun h => ?_
    · rw [hiff.mpr h.2]
      have hcs := calculateScore_occ cfg cs norm t p (te - p.size) h.2.1 h.2.foldRune
      rw [show te - p.size + p.size = te by omega] at hcs
      rw [hcs]
      rfl
    · rw [Bool.eq_false_iff.mpr (mt hiff.mp fun hocc => h ⟨by omega, hocc⟩)]; rfl

/-- EqualMatch returns; it reports a match exactly when the text without the whitespace `lead` and `trail` the
    anchors skip (tied by `hlead`, `htrail` as `off` is in `prefixMatch_spec`) is as long as the term and the term
    occurs at `lead` under `equalOk`, and then that range with a score that is a function of the length alone. -/
theorem equalMatch_spec (cfg : Cfg) (cs norm : Bool) (t p : Text) (hp : 0 < p.size) {lead trail : Nat}
    (hlead : (if !cfg.U.isSpace (p.getD 0 0) then leadingWhitespaces cfg t else 0) = lead)
    (htrail : (if !cfg.U.isSpace (p.getD (p.size - 1) 0) then trailingWhitespaces cfg t else 0) = trail) :
    Post (fun r => (0 ≤ r.start ↔ (t.size : Int) - lead - trail = p.size ∧ OccAt (equalOk cfg cs norm) t p lead) ∧
        (0 ≤ r.start → r = ⟨lead, lead + p.size,
          (scoreMatch + cfg.sch.bWhite) * p.size + (bonusFirstCharMultiplier - 1) * cfg.sch.bWhite, Option.none⟩))
      (equalMatch cfg cs norm t p) := by
  unfold equalMatch
  simp only [size_beq_zero hp, Bool.false_eq_true, if_false, hlead, htrail]
  by_cases hlen : ((t.size : Int) - lead - trail != p.size) = true
  · rw [if_pos hlen]
    exact decides_of_cases (Int.natCast_nonneg _) (fun h => absurd h.1 (by simpa using hlen)) fun _ => rfl
  · rw [if_neg hlen]
    have heq : (t.size : Int) - lead - trail = p.size := by simpa using hlen
    obtain ⟨b, hb, hiff⟩ := cmpAt_occ (equalOk cfg cs norm) t p lead (by omega)
    rw [hb]
    refine decides_of_cases (Int.natCast_nonneg _) (fun h => ?_) fun h => ?_
    · rw [hiff.mpr h.2]; rfl
    · rw [Bool.eq_false_iff.mpr (mt hiff.mp fun hocc => h ⟨heq, hocc⟩)]; rfl

end Fzf.Algo
