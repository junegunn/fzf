import Fzf.Lemmas.ChunkTail
import Fzf.Lemmas.Scan
/-
C13 — loading and searching run concurrently without interfering.
The heap model makes the sharing between the growing list and the
snapshots explicit; the scan model is the cancellation protocol as a transition system.
-/
namespace Fzf.Props.C13
open Fzf Fzf.ChunkHeap

/-- Items pushed by a history. -/
def pushed : List Op → List Int
  | [] => []
  | .push i :: ops => i :: pushed ops
  | .snap _ :: ops => pushed ops

def noTail : List Op → Prop
  | [] => True
  | .push _ :: ops => noTail ops
  | .snap t :: ops => t = 0 ∧ noTail ops

/-- **Snapshots are frozen.** A snapshot taken at any reachable moment (with or without --tail)
    reads the same in every later heap, whatever pushes and further snapshots follow: no cell it
    refers to is ever written again. -/
theorem C13_snapshot_frozen (cz tail : Nat) (before after : List Op) :
    let cl := before.foldl (step cz) ⟨[], []⟩
    let r := snapshot tail cl
    ∀ id ∈ r.2, (after.foldl (step cz) r.1).cell id = r.1.cell id :=
  snapshot_frozen cz tail (steps_wf cz before wf_empty) after

/-- The same, for what a search reads: the item sequence of the snapshot never changes. -/
theorem C13_snapshot_contents_frozen (cz tail : Nat) (before after : List Op) :
    let cl := before.foldl (step cz) ⟨[], []⟩
    let r := snapshot tail cl
    contents (after.foldl (step cz) r.1) r.2 = contents r.1 r.2 :=
  contents_congr _ (C13_snapshot_frozen cz tail before after)

/-- The list holds exactly the items pushed so far, in order (histories without --tail). -/
theorem C13_list_is_pushed (cz : Nat) (ops : List Op) (h : noTail ops) (cl : CL) (hwf : WF cl) :
    contents (ops.foldl (step cz) cl) (ops.foldl (step cz) cl).ids = contents cl cl.ids ++ pushed ops := by
  fun_induction noTail ops generalizing cl
  case case1 => exact (List.append_nil _).symm
  case case2 i ops ih =>  -- a push
    refine (ih h _ (push_wf cz cl i hwf)).trans ?_
    rw [push_contents cz cl i hwf, List.append_assoc]
    rfl
  case case3 t ops ih =>  -- a snapshot: without --tail the list stays as it is
    obtain ⟨rfl, h'⟩ := h
    refine (ih h' _ (snapshot_wf 0 cl hwf)).trans ?_
    rw [snapshot_list_eq_shown 0 cl hwf, snapshot_shows_all 0 cl hwf rfl]
    rfl

/-- **A search works on a frozen prefix.** Without --tail, the snapshot taken after a history
    holds exactly the items pushed by that history, in order, and still does after any later
    history of pushes and snapshots. -/
theorem C13_frozen_prefix (cz : Nat) (before after : List Op) (h : noTail before) :
    let cl := before.foldl (step cz) ⟨[], []⟩
    let r := snapshot 0 cl
    contents (after.foldl (step cz) r.1) r.2 = pushed before := by
  intro cl r
  have hwf : WF cl := steps_wf cz before wf_empty
  rw [C13_snapshot_contents_frozen cz 0 before after, snapshot_shows_all 0 cl hwf rfl]
  exact C13_list_is_pushed cz before h ⟨[], []⟩ wf_empty

/-- **A snapshot under --tail is the last N items.** At any reachable moment, `Snapshot(tail)`
    hands out — and leaves in the list — exactly the last `tail` items the list held, in order
    (all of them when there are fewer). -/
theorem C13_tail_snapshot_is_last_n (cz tail : Nat) (ht : 0 < tail) (before : List Op) :
    let cl := before.foldl (step cz) ⟨[], []⟩
    let r := snapshot tail cl
    contents r.1 r.2 = lastN tail (contents cl cl.ids) ∧ contents r.1 r.1.ids = lastN tail (contents cl cl.ids) :=
  have hw := steps_wf cz before wf_empty
  ⟨snapshot_shows_lastN tail _ hw ht, (snapshot_list_eq_shown tail _ hw).trans (snapshot_shows_lastN tail _ hw ht)⟩

/-- **`changed` is exact.** At any reachable moment `Snapshot` reports `changed` if and only if the
    list afterwards holds other items than before (the coordinator bumps the revision on it, and
    everything cached per revision depends on that). -/
theorem C13_changed_exact (cz tail : Nat) (before : List Op) :
    let cl := before.foldl (step cz) ⟨[], []⟩
    changed tail cl = true ↔ contents (snapshot tail cl).1 (snapshot tail cl).1.ids ≠ contents cl cl.ids :=
  changed_iff tail _ (steps_wf cz before wf_empty)

/-- **Same revision and same count ⇒ same items.** Along any history of pushes and snapshots (with
    or without --tail), with the revision bumped exactly when `Snapshot` reports `changed`, two
    snapshots taken under the same revision that report the same count hold the same items. This
    is the hypothesis `Valid` of `C08_merger_cache_transparent`: a merger cached for (revision,
    count) is a merger for the very same items. -/
theorem C13_same_revision_same_items (cz tail : Nat) (ops : List Op) :
    (coRun cz tail ⟨[], []⟩ 0 ops).Pairwise fun a b =>
      a.rev = b.rev → a.items.length = b.items.length → a.items = b.items := by
  refine (coRun_pairwise cz tail ops 0 wf_empty).imp ?_
  intro a b h hr hl
  exact List.IsPrefix.eq_of_length (h hr) hl

/-- The count reported with a snapshot is the number of items it holds. -/
theorem C13_count_consistent (cl : CL) (snap : List Nat) :
    countItems cl snap = (contents cl snap).length :=
  countItems_contents cl snap

/-- **All or nothing.** Along every interleaving of the workers and the main goroutine, with a
    newer request possibly observed after any count: if the scan returns a result, it is the
    complete result of every slice, and the scan was not cancelled. -/
theorem C13_scan_all_or_nothing (slices : List (List (List Int))) (trace : List Scan.Label)
    (out : List (List Int))
    (h : (Scan.run (Scan.init slices) trace).phase = .finished (some out)) :
    out = slices.map List.flatten ∧ (Scan.run (Scan.init slices) trace).cancelled = false :=
  have inv := Scan.reachable_inv slices trace
  -- had it been cancelled, it would have returned nothing (`inv.cancelled`), not `out`
  ⟨inv.published out h, Bool.eq_false_iff.mpr fun hc => nomatch h.symm.trans (inv.cancelled hc)⟩

/-- A cancelled scan publishes nothing. -/
theorem C13_cancelled_publishes_nothing (slices : List (List (List Int))) (trace : List Scan.Label)
    (h : (Scan.run (Scan.init slices) trace).cancelled = true) :
    (Scan.run (Scan.init slices) trace).phase = .finished none :=
  (Scan.reachable_inv slices trace).cancelled h

/-! Non-vacuity: a history that reaches a completed scan, one that reaches a cancelled one, and a
    snapshot that is followed by pushes into the chunk it was copied from. -/
example : (Scan.run (Scan.init [[[1], [2, 3]], [[4]]])
    [.work 0, .check 0, .work 1, .check 1, .work 0, .check 0, .recv false, .recv false, .recv true,
     .finish 0, .finish 1, .collect]).phase = .finished (some [[1, 2, 3], [4]]) := by decide

example : (Scan.run (Scan.init [[[1], [2, 3]], [[4]]])
    [.work 0, .check 0, .recv true, .work 1, .check 1, .work 0, .check 0, .finish 0, .finish 1, .collect]).phase
    = .finished none := by decide

example :
    let cl := [Op.push 1, .push 2, .push 3].foldl (step 2) ⟨[], []⟩
    let r := snapshot 0 cl
    let cl2 := [Op.push 4, .push 5].foldl (step 2) r.1
    contents cl2 r.2 = [1, 2, 3] ∧ contents cl2 cl2.ids = [1, 2, 3, 4, 5] := by decide

/-- --tail 2 over pushes 1..5 with snapshots in between: the revision is bumped exactly by the
    snapshots that drop something, and every snapshot shows the last two items. -/
example :
    (coRun 2 2 ⟨[], []⟩ 0 [.push 1, .push 2, .snap 2, .push 3, .snap 2, .snap 2, .push 4, .push 5, .snap 2]).map
      (fun r => (r.rev, r.items)) = [(0, [1, 2]), (1, [2, 3]), (1, [2, 3]), (2, [4, 5])] := by decide

end Fzf.Props.C13
