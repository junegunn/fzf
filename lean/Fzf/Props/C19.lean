import Fzf.Model.Walker
/-
C19 — the built-in walker lists exactly the files the walker options describe.
-/
namespace Fzf.Props.C19
open Fzf Fzf.Walker

/-- A pruned directory (hidden without `hidden`, or named by --walker-skip by base name, by full
    path or by path suffix) contributes nothing: neither itself nor anything below it. -/
theorem C19_pruned_lists_nothing (o : Opts) (es : List Entry) (fuel : Nat) (e : Entry) (real shown : Str)
    (hd : e.kind = .dir) (hp : pruned o shown = true) : visit o es fuel e real shown = [] := by
  cases fuel with
  | zero => rfl
  | succ fuel => simp [visit, hd, hp]

/-- A plain file is listed exactly when `file` is set, as its path, once. -/
theorem C19_file_listed_iff (o : Opts) (es : List Entry) (fuel : Nat) (e : Entry) (real shown : Str)
    (hf : e.kind = .file) : visit o es (fuel + 1) e real shown = if o.file then [shown] else [] := by
  simp [visit, hf]

/-- A symbolic link is entered only with `follow`; without it, it is listed like a file. -/
theorem C19_link_not_followed (o : Opts) (es : List Entry) (fuel : Nat) (e : Entry) (real shown : Str)
    (hl : e.kind = .link) (hnf : o.follow = false) :
    visit o es (fuel + 1) e real shown = if o.file then [shown] else [] := by
  simp [visit, hl, hnf]

/-- Everything listed while visiting an entry lies under the path the entry is printed as: a
    directory's contents are printed relative to it, with the separator. -/
theorem C19_listed_under (o : Opts) (es : List Entry) (fuel : Nat) :
    ∀ (e : Entry) (real shown : Str), ∀ p ∈ visit o es fuel e real shown, shown.isPrefixOf p = true := by
  intro e real shown
  simp only [List.isPrefixOf_iff_prefix]
  fun_induction visit o es fuel e real shown with
  | case1 | case2 | case5 => nofun  -- nothing is listed
  | case4 => simp                   -- `shown` alone is listed
  | case3 e real shown fuel isDir symDir _ _ out self _ _ ih =>
    -- a directory that is entered: `self` is `[shown/]` or empty, the children are printed below `shown/`
    intro p hp
    rcases List.mem_append.1 hp with h | h
    · exact List.mem_singleton.1 (List.mem_ite_nil_right.1 h).2 ▸ List.prefix_append _ _
    · obtain ⟨c, _, hc⟩ := List.mem_flatMap.1 h
      exact ((List.prefix_append shown [47]).trans (List.prefix_append _ _)).trans (ih c p hc)

/-- **No leading `./`.** Walking the root `.` prints every path relative to it: when no entry of the
    tree is named `.` or with a leading `./` (entries are relative paths), no listed path starts with
    `./` — whatever the options, the depth and the links followed. -/
theorem C19_no_dot_slash (o : Opts) (es : List Entry)
    (hes : ∀ e ∈ es, e.path ≠ [46] ∧ ([46, 47] : Str).isPrefixOf e.path = false) :
    ∀ p ∈ walk o es [46], ([46, 47] : Str).isPrefixOf p = false := by
  intro p hp
  obtain ⟨c, hc, hpc⟩ := List.mem_flatMap.1 hp
  obtain ⟨hc, hne⟩ := List.mem_filter.1 hc
  have hpre := C19_listed_under o es (es.length + 2) c c.path c.path p hpc
  obtain ⟨hdot, hcp⟩ := hes c hc
  rw [List.isPrefixOf_iff_prefix] at hpre
  rw [Bool.eq_false_iff, Ne, List.isPrefixOf_iff_prefix] at hcp ⊢
  intro h
  -- `./` and `c.path` are both prefixes of `p`, so one is a prefix of the other
  rcases List.prefix_or_prefix_of_prefix h hpre with h' | h'
  · exact hcp h'
  · -- a prefix of `./` is empty, `.` or `./`: `c.path` is none of them
    simp only [List.prefix_cons_iff, List.prefix_nil] at h'
    rcases h' with h0 | ⟨_, h1, rfl | ⟨_, rfl, rfl⟩⟩
    · simp [h0] at hne
    · exact hdot h1
    · exact hcp (h1 ▸ List.prefix_refl _)

/-- Skip rules, on concrete paths: a base name matches only the last component, `foo/bar`
    matches `foo/bar` and `baz/foo/bar` but not `bazfoo/bar`. -/
theorem C19_skip_rules :
    let o : Opts := ⟨true, false, true, false, [[102, 111, 111, 47, 98, 97, 114]]⟩   -- foo/bar
    pruned o [102, 111, 111, 47, 98, 97, 114] = true ∧
    pruned o [98, 97, 122, 47, 102, 111, 111, 47, 98, 97, 114] = true ∧
    pruned o [98, 97, 122, 102, 111, 111, 47, 98, 97, 114] = false := by decide

example : walk ⟨true, true, false, false, []⟩ [⟨.dir, [97], []⟩, ⟨.file, [97, 47, 120], []⟩, ⟨.dir, [46, 104], []⟩, ⟨.file, [46, 104, 47, 121], []⟩] [46]
    = [[97, 47], [97, 47, 120]] := by decide

theorem strip_no_dot_slash {fuel : Nat} {t : Str} (h : t.length ≤ fuel) :
    ¬ ([46, 47] <+: resolveRoot.strip t fuel) := by
  fun_induction resolveRoot.strip t fuel with
  | case1 fuel rest ih =>
    exact ih (Nat.le_trans (List.dropWhile_sublist _).length_le (Nat.le_of_succ_le (Nat.le_of_succ_le_succ h)))
  | case2 fuel t hne =>
    -- the match fell through although `t` starts with `./`: then there was no fuel, but `t` has length ≥ 2
    rintro ⟨r, rfl⟩
    cases fuel with
    | zero => nomatch h
    | succ f => exact hne f r rfl rfl

/-- **A root under another spelling is printed without any leading `./`** — `./d`, `.//d`,
    `././d` are all printed as `d` (finding F34: `.//d` used to be printed as `/d`), for every
    root string. -/
theorem C19_root_printed_without_dot_slash (root : Str) : ¬ ([46, 47] <+: (resolveRoot root).2) :=
  strip_no_dot_slash (Nat.le_refl _)

/- The spellings of one directory lead to the same place. -/
example : (resolveRoot [100, 47]).1 = [100] ∧ (resolveRoot [46, 47, 47, 100]) = ([100], [100]) ∧
    (resolveRoot [100, 47, 46, 46, 47, 100]) = ([100], [100, 47, 46, 46, 47, 100]) ∧
    (resolveRoot [100, 47, 46, 47, 101]) = ([100, 47, 101], [100, 47, 46, 47, 101]) := by decide

end Fzf.Props.C19
