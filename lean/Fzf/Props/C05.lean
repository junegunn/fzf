import Fzf.Lemmas.Rank
import Fzf.Lemmas.Prog
/-
C05 — matching is a pure function of (line, query, options).
-/
namespace Fzf.Props.C05
open Fzf Fzf.Algo

/-- For every program over the scratch memory: a successful *checked* run (no read of a cell
    the call has not itself written, no index out of range) fixes the result of the *raw* run —
    what the Go code computes — for every initial content of the memory that agrees on the
    cells known to be reliable. -/
theorem C05_checked_ok_imp_junk_indep {α : Type} (p : Prog α) (m₁ m₂ : Array Int) (w : Array Bool) (r : α)
    (hag : Prog.Agree m₁ m₂ w) (hc : p.runChk m₁ w = .ok r) : p.runRaw m₂ = .ok r :=
  Prog.checked_ok_imp_raw hag hc

/-- FuzzyMatchV2 over a reused slab: whenever the checked run of the array-faithful model
    succeeds on an input, the answer Go computes for that input is the same for *all* contents
    the slab may hold from earlier calls (any preceding call history, any worker). The driver
    establishes the hypothesis for every case it runs; C02 (`total`) is the statement that it
    holds for all inputs. -/
theorem C05_v2_junk_independent (cfg : Cfg) (cs norm fwd : Bool) (t : Text) (isBytes : Bool) (p : Text)
    (withPos : Bool) (slab : Option (Nat × Nat)) (junk₁ junk₂ : Nat → Int) (r : Res)
    (h : fuzzyMatchV2Slab cfg cs norm fwd t isBytes p withPos slab junk₁ true = .ok r) :
    fuzzyMatchV2Slab cfg cs norm fwd t isBytes p withPos slab junk₂ false = .ok r := by
  unfold fuzzyMatchV2Slab at h ⊢
  -- the slab contents and the mode occur only in the last branch; before it both sides are one term
  by_cases h1 : (p.size == 0) = true
  · rwa [if_pos h1] at h ⊢
  rw [if_neg h1] at h ⊢
  by_cases h2 : p.size > t.size
  · rwa [if_pos h2] at h ⊢
  rw [if_neg h2] at h ⊢
  by_cases h3 : v2Fallback slab t.size p.size = true
  · rwa [if_pos h3] at h ⊢
  rw [if_neg h3] at h ⊢
  cases h4 : asciiFuzzyIndex t isBytes p cs with
  | none => rwa [h4] at h
  | some mm =>
    rw [h4] at h
    -- `v2Run` is `runChk` or `runRaw` of one program on memories that differ only in the junk
    unfold v2Run at h ⊢
    exact Prog.checked_ok_imp_raw (initMem_agree _ _ junk₁ junk₂) h

/-- Two slab states can therefore never be told apart. -/
theorem C05_v2_two_slabs_agree (cfg : Cfg) (cs norm fwd : Bool) (t : Text) (isBytes : Bool) (p : Text)
    (withPos : Bool) (slab : Option (Nat × Nat)) (junk₀ junk₁ junk₂ : Nat → Int) (r : Res)
    (h : fuzzyMatchV2Slab cfg cs norm fwd t isBytes p withPos slab junk₀ true = .ok r) :
    fuzzyMatchV2Slab cfg cs norm fwd t isBytes p withPos slab junk₁ false =
    fuzzyMatchV2Slab cfg cs norm fwd t isBytes p withPos slab junk₂ false := by
  rw [C05_v2_junk_independent _ _ _ _ _ _ _ _ _ junk₀ junk₁ r h,
      C05_v2_junk_independent _ _ _ _ _ _ _ _ _ junk₀ junk₂ r h]

/-- **Filtering a sub-list yields the full result restricted to that sub-list, in the same
    relative order.** For the ranked results of distinct items (any rank points, --tac or not):
    ranking the results that belong to any sub-collection gives the ranking of all results
    restricted to it. (That an item's rank points do not depend on the other items is the
    junk-independence theorem above plus the per-item structure of the matcher model.) -/
theorem C05_sublist_restriction (ms : List Fzf.Rank.R) (tac : Bool)
    (hd : ms.Pairwise fun a b => a.index ≠ b.index) (q : Fzf.Rank.R → Bool) :
    (ms.filter q).mergeSort (fun a b => Fzf.Rank.compareRanks64 a b tac) =
      (ms.mergeSort (fun a b => Fzf.Rank.compareRanks64 a b tac)).filter q := by
  rw [Rank.sort_eq_leRank ms tac hd, Rank.sort_eq_leRank (ms.filter q) tac (hd.filter q)]
  -- both lists have the same elements and are in the strict order "`leRank`, and not the same item"
  have hsorted (l : List Rank.R) (hl : l.Pairwise fun a b => a.index ≠ b.index) :
      (l.mergeSort (Rank.leRank tac)).Pairwise fun a b => Rank.leRank tac a b = true ∧ a.index ≠ b.index :=
    (List.pairwise_mergeSort (Rank.leRank_trans tac) (Rank.leRank_total tac) l).and
      (hl.perm (List.mergeSort_perm ..).symm Ne.symm)
  exact List.Pairwise.eq_of_mem_iff (fun a b h1 h2 => h1.2 (Rank.leRank_antisymm_index tac a b h1.1 h2.1))
    (hsorted _ (hd.filter q)) ((hsorted _ hd).filter q) fun a => by simp only [List.mem_mergeSort, List.mem_filter]

/-- … and the renumbering of the items that taking a sub-list of the input causes does not
    change any comparison: the order depends on item numbers only through their order. -/
theorem C05_renumbering_invariant (a b : Fzf.Rank.R) (tac : Bool) (f : Int → Int) (hf : ∀ x y, x ≤ y ↔ f x ≤ f y) :
    Fzf.Rank.compareRanks64 ⟨a.pts, f a.index⟩ ⟨b.pts, f b.index⟩ tac = Fzf.Rank.compareRanks64 a b tac := by
  rw [Bool.eq_iff_iff, Rank.cmp_iff, Rank.cmp_iff]
  -- the packed points do not see the item number, and the index tests are `≤` or its negation, which `f` keeps
  show (Rank.packed a < Rank.packed b ∨
    (Rank.packed a = Rank.packed b ∧ if tac then f b.index < f a.index else f a.index ≤ f b.index)) ↔ _
  simp only [← Int.not_le, ← hf]

/- The hypothesis is what the matcher produces: one result per item. -/
example : ([⟨[0, 0, 3, 9], 0⟩, ⟨[0, 0, 1, 9], 1⟩, ⟨[0, 0, 2, 9], 2⟩, ⟨[0, 0, 1, 9], 3⟩] : List Fzf.Rank.R).Pairwise
    (fun a b => a.index ≠ b.index) := by decide

end Fzf.Props.C05
