import Fzf.Lemmas.Render
import Fzf.Generated.GoFuncs
/-
C15 — the screen shows the actual state.
-/
namespace Fzf.Props.C15
open Fzf Fzf.Terminal Fzf.Render

/-- **A line that fits is shown complete**, whatever the match, the scroll options or the ellipsis. -/
theorem C15_fits_shown_complete (o : ROpts) (mw : Nat) (line : Str) (maxe : Nat) (hasPos : Bool)
    (h : line.length ≤ mw) : fit o mw line maxe hasPos = line :=
  fit_of_le h

/-- **A line that does not fit is never drawn wider than the room it has**: for every window width,
    ellipsis, scroll offset, match position and scroll mode the truncated text occupies at most
    `mw` columns (and exactly `mw` once the ellipsis fits in half of them). -/
theorem C15_width_le (o : ROpts) (mw : Nat) (line : Str) (maxe : Nat) (hasPos : Bool) :
    (fit o mw line maxe hasPos).length ≤ mw := by
  rw [fit_length]; exact Nat.min_le_left _ _

/-- The same bound stated for the whole row: every row of the screen has exactly `W` cells. -/
theorem C15_row_width (o : ROpts) (r : RowIn) : (itemRow o r).length = o.W :=
  rowOf_length

/-- **What a truncated row consists of**: nothing but the ellipsis and one contiguous slice of the
    line — `slice ++ ellipsis`, `ellipsis ++ slice` or `ellipsis ++ slice ++ ellipsis`. -/
theorem C15_truncation_is_slice (o : ROpts) (mw : Nat) (line : Str) (maxe : Nat) (hasPos : Bool)
    (h : mw < line.length) :
    ∃ pre slice suf, fit o mw line maxe hasPos = pre ++ slice ++ suf ∧ slice <:+: line ∧
      (pre = [] ∨ pre = o.ellipsis.take (mw / 2)) ∧ (suf = [] ∨ suf = o.ellipsis.take (mw / 2)) := by
  obtain ⟨e, r, rfl, _, _, h | h | ⟨m, _, _, h⟩⟩ := fit_cases o mw line maxe hasPos h
  · exact ⟨[], _, _, h, (List.take_prefix _ _).isInfix, .inl rfl, .inr rfl⟩
  · exact ⟨_, _, [], h.trans (List.append_nil _).symm, (lastN_suffix _ _).isInfix, .inr rfl, .inl rfl⟩
  · exact ⟨_, _, _, h, (lastN_suffix _ _).isInfix.trans (List.take_prefix _ _).isInfix, .inr rfl, .inr rfl⟩

/-- **Pointer and marker**: the row of a result starts with the pointer exactly when it is the
    current one and continues with the marker exactly when it is selected (blank cells of the
    same width otherwise), followed by the fitted text. -/
theorem C15_row_faithful (o : ROpts) (r : RowIn) (hw : ind o + 1 < o.W) :
    itemCells o r =
      (if r.current then o.pointer else blanks o.pointer.length) ++
      (if r.selected then o.marker else blanks o.marker.length) ++
      fit o (o.W - (ind o + 1)) r.text r.maxe r.hasPos := by
  unfold itemCells
  dsimp only
  rw [if_pos (Nat.sub_pos_of_lt hw)]

/-- **The screen has the size of the window** in every layout. -/
theorem C15_screen_height (o : ROpts) (v : View) (hroom : promptLines o + o.header0.length + o.headerItems.length ≤ o.H) :
    (fullRender o v).length = o.H := by
  have hs := stack_length o v hroom
  rw [fullRender_eq o v hroom]
  cases o.layout
  -- default
  · exact (List.length_reverse ..).trans hs
  -- reverse
  · exact hs
  -- reverse-list
  · simp only [List.length_append, List.length_map, List.length_reverse, listRows_length, bottomBlock_length, maxItems]
    omega

/-- **Order and direction by layout**: the `k`-th visible result is drawn `k` rows below the
    header block with `--layout=reverse`, `k` rows above it in the default layout (counting from
    the bottom), and `k` rows below the top header lines with `--layout=reverse-list`. Header
    lines and list rows never share a row. -/
theorem C15_order_by_layout (o : ROpts) (v : View) (k : Nat) (hk : k < maxItems o)
    (hroom : promptLines o + o.header0.length + o.headerItems.length ≤ o.H) :
    let fixed := promptLines o + o.header0.length + o.headerItems.length
    (o.layout = .reverse → (fullRender o v)[fixed + k]? = (listRows o v)[k]?) ∧
    (o.layout = .default → (fullRender o v)[o.H - 1 - (fixed + k)]? = (listRows o v)[k]?) ∧
    (o.layout = .reverseList → (fullRender o v)[o.headerItems.length + k]? = (listRows o v)[k]?) := by
  have hs := stack_length o v hroom  -- for the `omega` below
  rw [fullRender_eq o v hroom, ← fixedBlock_length o v]
  refine ⟨fun h => ?_, fun h => ?_, fun h => ?_⟩ <;> simp only [h]
  · exact List.getElem?_append_add ..
  · -- the stack is drawn bottom-up: row `i` from the bottom is row `H - 1 - i` of the screen
    rw [List.getElem?_reverse' (j := (fixedBlock o v).length + k)
      (by rw [fixedBlock_length]; unfold maxItems at hk; omega)]
    exact List.getElem?_append_add ..
  · rw [List.append_assoc, ← List.length_map (f := headerRow o), List.getElem?_append_add,
      List.getElem?_append_left (by rw [listRows_length]; exact hk)]

/-- The `k`-th list row is the row of the `k`-th visible result. -/
theorem C15_list_row (o : ROpts) (v : View) (k : Nat) (hk : k < maxItems o) (r : RowIn) (hr : v.rows[k]? = some r) :
    (listRows o v)[k]? = some (itemRow o r) := by
  unfold listRows
  have hlt : k < v.rows.length := (List.getElem?_eq_some_iff.mp hr).1
  dsimp only
  rw [List.getElem?_append_left (by rw [List.length_map, List.length_take]; omega), List.getElem?_map,
    List.getElem?_take_of_lt hk, hr]
  rfl

/-- **Incremental repaint = full repaint.** Repainting a row over what it showed before — erasing
    only as far as the previous text reached, as `printItem` does — gives exactly the row a redraw
    from scratch gives, and re-establishes the invariant for the next repaint. Holds for every
    previous content satisfying the invariant, every window width and every pair of old / new
    lines. -/
theorem C15_incremental_eq_full (o : ROpts) (old : Str) (prev : Prev) (r : RowIn)
    (hinv : RowInv o old prev) :
    (paintItemRow o old prev r).1 = itemRow o r ∧ RowInv o (paintItemRow o old prev r).1 (paintItemRow o old prev r).2 := by
  obtain ⟨hlen, hblank⟩ := hinv
  have hcl := itemCells_length o r
  -- the erased stretch reaches the end of the previous text: `txt.length + (prev.width - txt.length) ≥ prev.width`
  have heq : (paintItemRow o old prev r).1 = itemRow o r :=
    repaint_eq hlen fun i h hi => hblank i (by rw [hcl] at h; omega) hi
  rw [heq]
  -- the new width is `txt.length`, and beyond its `ind o + txt.length` cells `rowOf` pads with blanks
  refine ⟨rfl, rowOf_length, fun i h1 h2 => ?_⟩
  rw [itemRow, rowOf_getElem?, if_pos h2, if_neg (by rw [hcl]; simp only [paintItemRow] at h1; omega)]

/-- … hence for any history of repaints of a row, starting from a blank row. -/
theorem C15_incremental_history (o : ROpts) (rs : List RowIn) (r : RowIn) :
    ((rs ++ [r]).foldl (fun (acc : Str × Prev) x => paintItemRow o acc.1 acc.2 x) (blanks o.W, ⟨0⟩)).1 = itemRow o r := by
  rw [List.foldl_append]
  exact (C15_incremental_eq_full o _ _ r (List.foldlRecOn (motive := fun (acc : Str × Prev) => RowInv o acc.1 acc.2) rs _
    (rowInv_blank o) fun acc h x _ => (C15_incremental_eq_full o acc.1 acc.2 x h).2)).1

/-- **When a repaint may be skipped.** A row is a function of the result's text, the positions the
    current *pattern* matches in it, and the current / selected flags. If all of these are as they
    were when the row was last painted, skipping the repaint is unobservable. (The pinned snapshot
    compared the *length* of the query instead of the pattern: finding F21.) -/
theorem C15_skip_sound (o : ROpts) (r₁ r₂ : RowIn) (h : r₁ = r₂) : itemRow o r₁ = itemRow o r₂ :=
  congrArg (itemRow o) h

/-- Why the length of the query is not enough: the same line, ranked the same under two queries of
    equal length, is drawn differently (the window follows the match). -/
theorem C15_same_length_queries_differ :
    let o : ROpts := { W := 20, H := 10, layout := .default, info := .default, separator := true }
    let line : Str := [97, 98, 45] ++ List.replicate 30 120 ++ [32, 98, 97]
    itemRow o { text := line, maxe := 2, hasPos := true } ≠ itemRow o { text := line, maxe := 36, hasPos := true } := by
  decide

/-- **Prompt and counters**: the prompt line starts with the prompt followed by the query, and the
    info line carries `matched/total` (and the selection count under --multi). -/
theorem C15_prompt_shows_query (o : ROpts) (input : Str) (found total nsel : Nat)
    (hinfo : o.info ≠ .inline) (hinfo2 : o.info ≠ .inlineRight) (hp : o.prompt.length ≤ o.W - 2)
    (hfit : o.prompt.length + input.length ≤ o.W) :
    (promptRow o input found total nsel).take (o.prompt.length + input.length) = o.prompt ++ input :=
  promptRow_prefix o input found total nsel hp hfit

theorem C15_info_shows_counts (o : ROpts) (found total nsel : Nat) (hinfo : o.info = .default)
    (hfit : (infoText o found total nsel).length + 3 ≤ o.W) :
    ((infoRow o found total nsel).drop 2).take (infoText o found total nsel).length = infoText o found total nsel := by
  unfold infoRow
  simp only [hinfo]
  generalize infoText o found total nsel = txt at *
  rw [trimMessage_of_le (Nat.le_sub_of_add_le (Nat.le_sub_of_add_le hfit))]
  have h := showsAt_put (blanks o.W) 2 txt (by rw [blanks_length]; omega)
  split
  · exact h.put_after (Nat.le_succ _)  -- the separator starts one cell after the counter
  · exact h

/-- The width arithmetic uses `util.Max` / `util.Min` as translated from the source on every run:
    they are maximum and minimum. -/
theorem C15_max_min_are_source (a b : Int) :
    Generated.Go.Max a b = max a b ∧ Generated.Go.Min a b = min a b := by
  unfold Generated.Go.Max Generated.Go.Min
  simp only [decide_eq_true_eq]
  refine ⟨?_, (Int.min_def a b).symm⟩
  -- on a tie `util.Max` returns its first argument, `max` its second
  split
  · exact (Int.max_eq_left ‹_›).symm
  · exact (Int.max_eq_right (Int.le_of_lt (Int.not_le.mp ‹_›))).symm

/-- **A hidden input section takes no rows.** While the input section is hidden (--no-input,
    hide-input, toggle-input) neither the prompt row nor the info row is part of the screen: the
    fixed rows are the header lines only, and the list has all the other rows of the window. -/
theorem C15_hidden_input_rows (o : ROpts) (v : View) (h : o.inputless = true) :
    promptLines o = 0 ∧ inputRows o v = [] ∧
    logical o v = (if o.layout = .reverse then o.header0.map (headerRow o) else (o.header0.map (headerRow o)).reverse) ∧
    maxItems o = o.H - (o.header0.length + o.headerItems.length) := by
  have hp : promptLines o = 0 := by unfold promptLines; rw [h]; rfl
  have hi : inputRows o v = [] := by unfold inputRows; rw [h, hp]; rfl
  refine ⟨hp, hi, ?_, ?_⟩
  · unfold logical; rw [hi]; rfl
  · unfold maxItems; rw [hp, Nat.zero_add]

/-- … and a shown one takes the prompt row first: the row next to the edge the layout puts the
    prompt on is the prompt row. -/
theorem C15_shown_input_first_row (o : ROpts) (v : View) (h : o.inputless = false) :
    (logical o v).head? = some (promptRow o v.input v.found v.total v.nsel) ∧
    (inputRows o v).head? = some (promptRow o v.input v.found v.total v.nsel) := by
  unfold logical inputRows; simp [h]

/-- **--header-first moves the headers, not the list.** With or without --header-first the fixed
    rows (input section, --header, --header-lines) take the same number of rows, so every list row
    is where `C15_order_by_layout` puts it; with --header-first the rows next to the edge are the
    --header lines and the input section follows them (and the --header-lines in the layouts that
    keep them next to the list). -/
theorem C15_header_first (o : ROpts) (v : View) :
    (fixedBlock o v).length = promptLines o + o.header0.length + o.headerItems.length ∧
    (o.headerFirst = true → fixedBlock o v = hdr0Rows o ++ o.headerItems.map (headerRow o) ++ inputRows o v) ∧
    (o.headerFirst = false → fixedBlock o v = inputRows o v ++ hdr0Rows o ++ o.headerItems.map (headerRow o)) := by
  refine ⟨fixedBlock_length o v, ?_, ?_⟩
  · intro h; unfold fixedBlock; simp [h]
  · intro h; unfold fixedBlock logical; simp [h]

/-- **--info=inline-right**: the counter sits at the right end of the prompt row (one margin cell
    after it) and the prompt and the query are at its start — so an action that repaints the prompt
    row must paint both; with the separator the row below is the separator row and the list begins
    after it, without it the list begins right after the prompt row. -/
theorem C15_inline_right (o : ROpts) (input : Str) (found total nsel : Nat) (hinfo : o.info = .inlineRight)
    (hp : o.prompt.length ≤ o.W - 2)
    (hroom : o.prompt.length + input.length + 1 + (infoText o found total nsel).length + 3 ≤ o.W) :
    ((promptRow o input found total nsel).drop (o.W - (infoText o found total nsel).length - 1)).take
        (infoText o found total nsel).length = infoText o found total nsel ∧
    (promptRow o input found total nsel).take (o.prompt.length + input.length) = o.prompt ++ input ∧
    (o.inputless = false → promptLines o = if o.separator then 2 else 1) := by
  refine ⟨?_, promptRow_prefix o input found total nsel hp (by omega), fun hi => ?_⟩
  · unfold promptRow
    simp only [hinfo]
    clear hp hinfo  -- `hp` would only give the `omega`s below a subtraction to split on
    generalize infoText o found total nsel = txt at *
    generalize o.prompt.length + input.length + 1 = pos at *
    -- `c` is the column of the spinner cell: spinner, margin, counter and the last cell fill the row from there
    obtain ⟨c, hc⟩ : ∃ c, o.W = c + 3 + txt.length := ⟨o.W - txt.length - 3, by omega⟩
    rw [hc] at hroom ⊢
    have hpos : pos ≤ c := by omega
    -- the counter's room begins at `c`; both tests for a free cell succeed: `c < W` and `c + 1 < W - 1`
    rw [Nat.add_sub_cancel, Nat.add_sub_cancel, Nat.max_eq_right hpos,
      if_pos (Nat.lt_add_right _ (Nat.lt_add_of_pos_right (Nat.zero_lt_succ 2))),
      if_pos (Nat.lt_sub_of_add_lt (Nat.lt_add_right _ (Nat.lt_succ_self (c + 1 + 1)))),
      trimMessage_of_le (Nat.le_sub_of_add_le (Nat.le_sub_of_add_le (by omega)))]
    exact showsAt_put _ _ _ (by rw [put_length, rowOf_length]; exact Nat.add_le_add_right (Nat.le_succ _) _)
  · unfold promptLines noSepLine
    rw [hi, hinfo]
    cases o.separator <;> rfl

/-- **--info=right**: the counter sits at the right end of the info row (one margin cell after
    it), the separator — or blanks — before it; the row below the prompt is that row. -/
theorem C15_info_right (o : ROpts) (found total nsel : Nat) (hinfo : o.info = .right)
    (hroom : (infoText o found total nsel).length + 2 ≤ o.W) :
    ((infoRow o found total nsel).drop (o.W - (infoText o found total nsel).length - 1)).take
        (infoText o found total nsel).length = infoText o found total nsel ∧
    (infoRow o found total nsel).length = o.W ∧ (o.inputless = false → promptLines o = 2) := by
  have hp : o.inputless = false → promptLines o = 2 := fun hi => by
    unfold promptLines noSepLine; rw [hi, hinfo]; rfl
  unfold infoRow
  simp only [hinfo]
  generalize infoText o found total nsel = txt at *
  rw [trimMessage_of_le (Nat.le_sub_of_add_le (Nat.le_of_succ_le hroom))]
  refine ⟨?_, rowOf_length, hp⟩
  -- `c` cells of separator or blanks, one blank, the counter and the last cell make up the row
  obtain ⟨c, hc⟩ : ∃ c, o.W = c + 2 + txt.length := ⟨o.W - txt.length - 2, by omega⟩
  rw [hc, Nat.add_sub_cancel, Nat.add_sub_cancel]
  have hpre : (if o.separator then List.replicate c o.sepChar else blanks c).length = c := by
    split <;> exact List.length_replicate
  exact showsAt_rowOf (List.length_append.trans (congrArg (· + 1) hpre))
    (Nat.add_le_add_right (Nat.le_succ (c + 1)) _)

/- Non-vacuity: a concrete screen. -/
example :
    let o : ROpts := { W := 12, H := 5, layout := .default, info := .default, separator := true, pointer := [62], marker := [42],
                       ellipsis := [46, 46], multi := maxMulti }
    fullRender o { input := [97], found := 2, total := 3, nsel := 1,
                   rows := [⟨[97, 98], 1, true, true, false⟩, ⟨[97, 98, 99, 100, 101, 102, 103, 104, 105, 106, 107], 1, true, false, true⟩] }
    = [blanks 12,
       [32, 42, 97, 98, 99, 100, 101, 102, 103, 46, 46, 32],
       [62, 32, 97, 98] ++ blanks 8,
       [32, 32, 50, 47, 51, 32, 40, 49, 41, 32, 0x2500, 32],
       [62, 32, 97] ++ blanks 9] := rfl

/- A screen with the input section hidden: every row is a list row, no prompt, no counter. -/
example :
    let o : ROpts := { W := 6, H := 3, layout := .reverseList, info := .default, separator := true, pointer := [62], marker := [42],
                       inputless := true }
    fullRender o { input := [97], found := 1, total := 1, nsel := 0, rows := [⟨[97, 98], 0, false, true, false⟩] }
    = [[62, 32, 97, 98, 32, 32], blanks 6, blanks 6] := rfl

end Fzf.Props.C15
