import Fzf.Lemmas.Anchored
import Fzf.Lemmas.Exact
import Fzf.Lemmas.Prog
import Fzf.Lemmas.V1Scan
import Fzf.Lemmas.V2Decides
import Fzf.Generated.Consts
import Fzf.Generated.GoFuncs
/-
C02 — every reported match has a genuine witness; non-match means none exists.
-/
namespace Fzf.Props.C02
open Fzf Fzf.Algo

/-- The executable judgement the driver applies to every answer of the implementation
    ("the pattern is a subsequence of the folded range") is the declarative one. -/
theorem C02_subseq_decides (p t : List Nat) : Spec.isSubseq p t = true ↔ List.Sublist p t :=
  Spec.isSubseq_iff p t

/-- A witness in the sense of the property is a sub-list embedding: positions strictly
    increasing inside the line, each holding the corresponding pattern character. -/
theorem C02_witness_gives_sublist (ft : Array Nat) (p pos : List Nat) (s e : Nat)
    (h : Spec.isWitness ft p pos s e = true) :
    pos.length = p.length ∧ ∀ k (hk : k < pos.length) (hk' : k < p.length),
      s ≤ pos[k] ∧ pos[k] < e ∧ pos[k] < ft.size ∧ ft.getD pos[k] 0 = p[k] := by
  simp only [Spec.isWitness, Bool.and_eq_true, beq_iff_eq, List.all_eq_true, decide_eq_true_eq] at h
  -- lengths agree, strictly increasing (not needed), every position in range, the characters along the zip
  obtain ⟨⟨⟨hl, _⟩, hin⟩, hz⟩ := h
  refine ⟨hl, ?_⟩
  intro k hk hk'
  have h1 := hin pos[k] (List.getElem_mem hk)
  have h2 := hz (pos[k], p[k]) (by
    rw [List.mem_iff_getElem]
    exact ⟨k, by simp only [List.length_zip]; omega, by simp⟩)
  exact ⟨h1.1.1, h1.1.2, h1.2, h2⟩

/-- The guard the code applies before running the O(nm) algorithm on a slab (`N*M ≤ cap`,
    after `M ≤ N`) keeps every score cell inside int16 for the slab size in the source:
    a cell never exceeds 26·M + 10. Enlarging `slab16Size` past the safe bound breaks this. -/
theorem C02_slab_guard_bounds_score (N M : Nat) (hMN : M ≤ N) (hcap : N * M ≤ Generated.slab16Size) :
    26 * M + 10 ≤ 32767 := by
  have h1 : M * M ≤ N * M := Nat.mul_le_mul_right M hMN
  have h2 : M * M ≤ 102400 := by
    have : Generated.slab16Size = 102400 := by decide
    omega
  -- 1259 is the largest `M` with 26·M + 10 ≤ 32767; beyond it `M * M` alone exceeds the slab
  by_cases hM : M ≤ 1259
  · omega
  · have h3 : 1260 ≤ M := by omega
    have h4 : 1260 * 1260 ≤ M * M := Nat.mul_le_mul h3 h3
    omega

/-- int16 wrap-around is the identity on the int16 range. -/
theorem C02_w16_id (x : Int) (h1 : -32768 ≤ x) (h2 : x ≤ 32767) : w16 x = x :=
  w16_small x h1 (Int.lt_add_one_iff.mpr h2)

/-- No out-of-range index, no read of stale memory ⇒ the raw run does not panic either:
    "matching never crashes" for V2 is the statement that the checked run is `.ok`. -/
theorem C02_checked_ok_imp_no_panic {α : Type} (p : Prog α) (m₁ m₂ : Array Int) (w : Array Bool) (r : α)
    (hag : Prog.Agree m₁ m₂ w) (hc : p.runChk m₁ w = .ok r) : ∃ r', p.runRaw m₂ = .ok r' :=
  ⟨r, Prog.checked_ok_imp_raw hag hc⟩

/-- **PrefixMatch (`^term`) is total, sound and complete**: for every text and every non-empty
    term it returns; it reports a match exactly when the term occurs, character by character
    after case folding / normalisation, right after the leading whitespace of the line (the
    whitespace is kept when the term itself starts with whitespace); the reported range is that
    occurrence. -/
theorem C02_prefix_exact (cfg : Cfg) (cs norm : Bool) (t p : Text) (hp : 0 < p.size) :
    ∃ r, prefixMatch cfg cs norm t p = .ok r ∧
      (0 ≤ r.start ↔ OccAt (fun c pc => foldTL cfg cs norm c == pc) t p
        (if !cfg.U.isSpace (p.getD 0 0) then leadingWhitespaces cfg t else 0)) ∧
      (0 ≤ r.start → r.start = ((if !cfg.U.isSpace (p.getD 0 0) then leadingWhitespaces cfg t else 0 : Nat) : Int) ∧
        r.stop = r.start + p.size) :=
  (prefixMatch_spec cfg cs norm t p hp rfl).mono fun _ h => ⟨h.1, fun h0 => by rw [h.2 h0]; exact ⟨rfl, rfl⟩⟩

/-- **SuffixMatch (`term$`) is total, sound and complete** (occurrence right before the trailing
    whitespace, kept when the term ends with whitespace). -/
theorem C02_suffix_exact (cfg : Cfg) (cs norm : Bool) (t p : Text) (hp : 0 < p.size) :
    ∃ r, suffixMatch cfg cs norm t p = .ok r ∧
      (0 ≤ r.start ↔ p.size ≤ suffixEnd cfg t p ∧
        OccAt (fun c pc => foldTL cfg cs norm c == pc) t p (suffixEnd cfg t p - p.size)) ∧
      (0 ≤ r.start → r.start = ((suffixEnd cfg t p - p.size : Nat) : Int) ∧ r.stop = (suffixEnd cfg t p : Int)) :=
  (suffixMatch_spec cfg cs norm t p hp).mono fun _ h => ⟨h.1, fun h0 => by rw [h.2 h0]; exact ⟨rfl, rfl⟩⟩

/-- **EqualMatch (`^term$`) is total, sound and complete**: a match exactly when the line without
    its leading and trailing whitespace has the length of the term and agrees with it. -/
theorem C02_equal_exact (cfg : Cfg) (cs norm : Bool) (t p : Text) (hp : 0 < p.size) :
    ∃ r, equalMatch cfg cs norm t p = .ok r ∧
      (0 ≤ r.start ↔
        (t.size : Int) - (if !cfg.U.isSpace (p.getD 0 0) then leadingWhitespaces cfg t else 0 : Nat) -
          (if !cfg.U.isSpace (p.getD (p.size - 1) 0) then trailingWhitespaces cfg t else 0 : Nat) = p.size ∧
        OccAt (equalOk cfg cs norm) t p (if !cfg.U.isSpace (p.getD 0 0) then leadingWhitespaces cfg t else 0)) ∧
      (0 ≤ r.start → r.start = ((if !cfg.U.isSpace (p.getD 0 0) then leadingWhitespaces cfg t else 0 : Nat) : Int) ∧
        r.stop = r.start + p.size) :=
  (equalMatch_spec cfg cs norm t p hp rfl rfl).mono fun _ h => ⟨h.1, fun h0 => by rw [h.2 h0]; exact ⟨rfl, rfl⟩⟩

/-- The comparison loops and the scoring walk of these matchers never index out of range: on a
    range inside the text that is not longer than the term, `calculateScore` returns. -/
theorem C02_calculateScore_total (cfg : Cfg) (cs norm : Bool) (t p : Text) (sidx eidx : Nat) (withPos : Bool)
    (h1 : eidx ≤ t.size) (h2 : eidx - sidx ≤ p.size) (h3 : sidx ≤ eidx) :
    ∃ r, calculateScore cfg cs norm t p sidx eidx withPos = .ok r := by
  rw [calculateScore_eq cfg cs norm t p sidx eidx withPos (by omega)]
  exact (post_bind (P := fun _ => True) (calcFold_returns cfg cs norm t p withPos _ _
    (fun idx hidx => by have := List.lt_add_of_mem_map_add_range hidx; omega)
    (by simp; omega)) fun _ _ => post_pure.mpr trivial).returns

/-- Normalisation leaves ASCII alone, whatever the (regenerated) table holds. -/
theorem C02_normalize_ascii (tbl : List (Nat × Nat)) (c : Nat) (h : c < 128) : normalizeRune tbl c = c :=
  normalizeRune_of_lt (Nat.lt_trans h (by decide))

/-- **The ASCII pre-filter never loses a match**: a text rejected by `asciiFuzzyIndex` (used by the
    fuzzy and exact matchers before the real work) does not contain the pattern as a
    subsequence of its folded characters. `isBytes` = the text is all ASCII. -/
theorem C02_prefilter_sound (cfg : Cfg) (cs norm : Bool) (t p : Text) (isBytes : Bool)
    (hascii : isBytes = true → ∀ c ∈ t.toList, c < 128) (hnorm : ∀ c, c < 128 → cfg.norm c = c)
    (h : asciiFuzzyIndex t isBytes p cs = none) :
    ¬ List.Sublist p.toList (t.toList.map (foldRune cfg cs norm)) :=
  asciiFuzzyIndex_none_sound cfg cs norm t p isBytes hascii hnorm h

/-- **FuzzyMatchV1 is sound and complete**: whenever it returns, it reports a match exactly when
    the pattern is a subsequence of the folded text — in both scan directions, for byte and rune
    representation, through the ASCII pre-filter. (That it always returns is established per case
    by the correspondence; the forward scan itself is proved total in `v1Forward_spec`.) -/
theorem C02_v1_sound_complete (cfg : Cfg) (cs norm fwd : Bool) (t : Text) (isBytes : Bool) (p : Text) (withPos : Bool)
    (r : Res) (hp : 0 < p.size)
    (hascii : isBytes = true → ∀ c ∈ t.toList, c < 128) (hnorm : ∀ c, c < 128 → cfg.norm c = c)
    (h : fuzzyMatchV1 cfg cs norm fwd t isBytes p withPos = .ok r) :
    (0 ≤ r.start ↔ List.Sublist p.toList (t.toList.map (foldRune cfg cs norm))) := by
  unfold fuzzyMatchV1 at h
  have hp0 := size_beq_zero hp
  cases hpre : asciiFuzzyIndex t isBytes p cs with
  | none =>
    simp only [hp0, hpre, Option.isNone_none, Bool.false_eq_true, if_false, if_true] at h
    cases h
    exact iff_of_false Res.none_start (asciiFuzzyIndex_none_sound cfg cs norm t p isBytes hascii hnorm hpre)
  | some mm =>
    simp only [hp0, hpre, Option.isNone_some, Bool.false_eq_true, if_false] at h
    obtain ⟨⟨pidx, sidx, eidx⟩, hfr, h⟩ := except_bind_ok h
    obtain ⟨hiff, hst⟩ := (v1Forward_decides cfg cs norm fwd t p hp).elim hfr
    -- the forward scan decides (`hiff`); the backward scan and the scoring only shape the reported range
    rw [← hiff]
    cases eidx with
    | none =>
      have : r = Res.none := by cases sidx <;> cases h <;> rfl
      subst this
      exact iff_of_false Res.none_start Bool.false_ne_true
    | some e =>
      obtain ⟨s, rfl⟩ := Option.isSome_iff_exists.mp (hst rfl)
      refine ⟨fun _ => rfl, fun _ => ?_⟩
      -- every successful path builds the result from natural numbers
      obtain ⟨back, _, h⟩ := except_bind_ok h
      obtain ⟨sc, _, h⟩ := except_bind_ok h
      cases h
      exact Int.natCast_nonneg _

/-- The index mapping of the backward scans is the function in the source: `indexAt`, translated
    from /repo/src/algo/algo.go on every run, is the model's `indexAt` and stays inside the text. -/
theorem C02_indexAt_is_source (i n : Nat) (fwd : Bool) (h : i < n) :
    Generated.Go.indexAt i n fwd = (indexAt i n fwd : Int) ∧ indexAt i n fwd < n := by
  refine ⟨?_, indexAt_lt fwd h⟩
  unfold Generated.Go.indexAt indexAt
  cases fwd <;> simp <;> omega

/-- The forward scan of V1 never indexes out of range and is the greedy subsequence test. -/
theorem C02_v1_forward_total (cfg : Cfg) (cs norm fwd : Bool) (t p : Text) (hp : 0 < p.size) :
    ∃ r, v1Forward cfg cs norm fwd t p (List.range t.size) 0 Option.none = .ok r ∧
      (r.2.2.isSome = true ↔ List.Sublist p.toList (t.toList.map (foldRune cfg cs norm))) :=
  (v1Forward_decides cfg cs norm fwd t p hp).mono fun _ h => h.1

/-- **ExactMatchNaive (`'term`, every term under --exact) and ExactMatchBoundary (`'term'`) are
    total**: for every line, term, direction and flag setting they return — the scanning loop
    with its backing-up after a partial match, the neighbour look-ups of the boundary variant
    and the scoring never index outside the line or the term. -/
theorem C02_exact_total (cfg : Cfg) (cs norm fwd boundary : Bool) (t : Text) (isBytes : Bool) (p : Text) :
    ∃ r, exactMatchNaive cfg cs norm fwd boundary t isBytes p = .ok r := by
  by_cases hm : 0 < p.size
  · exact (exactMatchNaive_spec cfg cs norm fwd boundary t isBytes p hm).returns
  · unfold exactMatchNaive
    rw [if_pos (by simpa using hm)]
    exact ⟨_, rfl⟩

/-- **… sound**: what either variant reports is an occurrence of the term — a range of the
    term's length inside the line that carries the term character by character after case
    folding / normalisation — whether the line is searched forward or backward. -/
theorem C02_exact_sound (cfg : Cfg) (cs norm fwd boundary : Bool) (t : Text) (isBytes : Bool) (p : Text)
    (hm : 0 < p.size) (r : Res) (hr : exactMatchNaive cfg cs norm fwd boundary t isBytes p = .ok r) (hs : 0 ≤ r.start) :
    r.stop = r.start + p.size ∧ r.stop ≤ t.size ∧
    ∀ i, i < p.size → foldRune cfg cs norm (t.getD (r.start.toNat + i) 0) = p.getD i 0 := by
  obtain ⟨s, hstart, hstop, hfit, hocc, _⟩ := (exactMatchNaive_spec cfg cs norm fwd boundary t isBytes p hm).elim hr hs
  rw [hstart, hstop, Int.toNat_natCast]
  exact ⟨rfl, by omega, hocc⟩

/-- **… and ExactMatchNaive is complete**: in fzf's three schemes, when it reports no match the
    term occurs nowhere in the folded line (no matching line is dropped by the ASCII pre-filter,
    by the restart after a partial match, or by running out of the loop's iterations).
    `isBytes` = the line is all ASCII; normalisation leaves ASCII alone (`C02_normalize_ascii`). -/
theorem C02_exact_complete (cfg : Cfg) (hs : RealScheme cfg) (hnorm : ∀ c, c < 128 → cfg.norm c = c)
    (cs norm fwd : Bool) (t : Text) (isBytes : Bool) (p : Text)
    (hascii : isBytes = true → ∀ c ∈ t.toList, c < 128) (hm : 0 < p.size) (r : Res)
    (hr : exactMatchNaive cfg cs norm fwd false t isBytes p = .ok r) (hneg : r.start < 0) :
    ¬ ∃ s, s + p.size ≤ t.size ∧ ∀ i, i < p.size → foldRune cfg cs norm (t.getD (s + i) 0) = p.getD i 0 :=
  exactMatchNaive_complete cfg hs.nonneg hnorm cs norm fwd t isBytes p hascii hm r hr hneg

example : Spec.isSubseq [97, 98] [120, 97, 45, 98] = true := by decide

example : Spec.isWitness #[120, 97, 45, 98] [97, 98] [1, 3] 1 4 = true := by decide

-- non-vacuity of the occurrence predicates: "  foo bar" starts with "foo" after its leading blanks
example : OccAt (fun c pc => c == pc) #[32, 32, 102, 111, 111, 32, 98, 97, 114] #[102, 111, 111] 2 := by
  unfold OccAt; decide

/-- **FuzzyMatchV2 — the default algorithm — is sound and complete.** Whenever it returns its
    match decision (`withPos = false`, as `Pattern.Match` calls it), it reports a match exactly
    when the pattern is a subsequence of the folded text: every reported match has a witness and
    "no match" means none exists. For every text and pattern, both scan directions, byte and rune
    representation, every slab capacity (the fall-back to V1 on a small slab included), through
    the ASCII pre-filter and the window it cuts out of the text (`window_keeps`: the window loses
    no embedding), and V2's own character folding (`v2Fold_eq_foldRune`: it agrees with the
    folding of the other matchers). That it returns at all — no index out of range in phases 3
    and 4 — is established per case by the correspondence. -/
theorem C02_v2_sound_complete (cfg : Cfg) (cs norm fwd : Bool) (t : Text) (isBytes : Bool) (p : Text)
    (slabCap : Option Nat) (r : Res) (hp : 0 < p.size)
    (hascii : isBytes = true → ∀ c ∈ t.toList, c < 128) (hnorm : ∀ c, c < 128 → cfg.norm c = c)
    (h : fuzzyMatchV2 cfg cs norm fwd t isBytes p false slabCap = .ok r) :
    (0 ≤ r.start ↔ List.Sublist p.toList (t.toList.map (foldRune cfg cs norm))) := by
  unfold fuzzyMatchV2 at h
  -- `rest ()` is the continuation the `do` block makes of everything after `if let some cap := slabCap`
  extract_lets -underBinder m n rest at h
  rw [size_beq_zero hp, if_neg Bool.false_ne_true] at h
  by_cases hlen : m > n
  · rw [if_pos hlen] at h
    cases h
    exact iff_of_false Res.none_start fun hs => Nat.not_le_of_gt hlen (by simpa using hs.length_le)
  rw [if_neg hlen] at h
  -- the slab only decides between V1 and the rest of V2
  suffices main : rest () = .ok r → (0 ≤ r.start ↔ List.Sublist p.toList (t.toList.map (foldRune cfg cs norm))) by
    cases slabCap with
    | none => exact main h
    | some cap =>
      simp only at h
      by_cases hbig : n * m > cap
      · rw [if_pos hbig] at h
        exact C02_v1_sound_complete cfg cs norm fwd t isBytes p false r hp hascii hnorm h
      · rw [if_neg hbig] at h; exact main h
  intro h
  -- `withPos = false`: the backtrace of phase 4 is not run (and `↓` keeps `simp` out of it)
  simp only [rest, Bool.not_false, ↓reduceIte] at h
  cases hpre : asciiFuzzyIndex t isBytes p cs with
  | none =>
    simp only [hpre] at h
    cases h
    exact iff_of_false Res.none_start (asciiFuzzyIndex_none_sound cfg cs norm t p isBytes hascii hnorm hpre)
  | some mm =>
    obtain ⟨minIdx, maxIdx⟩ := mm
    have hp2 := phase2_pidx_iff cfg cs norm fwd (t.extract minIdx maxIdx) p
    rw [List.map_congr_left (fun c _ => v2Fold_eq_foldRune cfg cs norm hnorm c),
      ← window_keeps cfg cs norm hnorm t p isBytes hascii hp minIdx maxIdx hpre] at hp2
    simp only [hpre] at h
    by_cases hne : ((phase2 cfg cs norm fwd (t.extract minIdx maxIdx) p).pidx != m) = true
    · rw [if_pos hne] at h
      cases h
      exact iff_of_false Res.none_start (by rw [← hp2]; simpa using hne)
    · have hsub := hp2.mp (by simpa using hne)
      rw [if_neg hne] at h
      -- every remaining path builds `start` from natural numbers
      have hnat : ∀ a b : Nat, (0 : Int) ≤ (a : Int) + (b : Int) := fun a b => Int.add_nonneg (Int.natCast_nonneg _) (Int.natCast_nonneg _)
      by_cases h1 : (m == 1) = true
      · rw [if_pos h1] at h
        cases h
        exact ⟨fun _ => hsub, fun _ => hnat _ _⟩
      · rw [if_neg h1] at h
        obtain ⟨s, _, h2⟩ := except_bind_ok h
        simp only [pure, Except.pure, Except.ok.injEq] at h2
        subst h2
        exact ⟨fun _ => hsub, fun _ => hnat _ _⟩

/-- Phase 2 of V2 on its own: it has found the whole pattern exactly when the pattern is a
    subsequence of the folded window. -/
theorem C02_v2_phase2_greedy (cfg : Cfg) (cs norm fwd : Bool) (win : Array Nat) (p : Text) (hp : 0 < p.size) :
    (phase2 cfg cs norm fwd win p).pidx = p.size ↔
      List.Sublist p.toList (win.toList.map fun c => (v2Fold cfg cs norm c).2) :=
  phase2_pidx_iff cfg cs norm fwd win p

end Fzf.Props.C02
