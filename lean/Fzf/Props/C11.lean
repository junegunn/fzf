import Fzf.Spec.Ansi
import Fzf.Lemmas.AnsiScan
import Fzf.Lemmas.AnsiSpans
/-
C11 — `--ansi` strips escape sequences only and colours the right characters.
-/
namespace Fzf.Props.C11
open Fzf Fzf.Ansi

/-- Text without control characters (no BS, SO, SI, ESC) is left untouched, whatever state is
    carried over from the previous line. -/
theorem C11_plain_untouched (s : Bytes) (st : Option State) (idBase : Nat) (hp : Plain s) :
    (extractColor s st idBase).1 = s := by
  unfold extractColor
  rw [extractLoop_plain s idBase hp, extractFinish_fst]
  rfl  -- no round was made, so `prevIdx` is still 0 and the line itself is returned

/-- … and the scanner reports no sequence in it, from any position. -/
theorem C11_plain_no_sequence (s : Bytes) (frm : Nat) (hp : Plain s) : nextEscape s frm = none :=
  nextEscape_plain s frm hp

/-- **Whatever the bytes, a reported escape sequence is a proper piece of the line**: it is not
    empty, it does not start before the position the scan started from (so text already handed
    over is never taken back), and it ends inside the line — for invalid UTF-8, truncated or
    nested sequences alike. This is what makes the stripping loop terminate and its offsets well
    formed. -/
theorem C11_scan_in_range (s : Bytes) (frm b e : Nat) (h : nextEscape s frm = some (b, e)) :
    frm ≤ b ∧ b < e ∧ e ≤ s.size :=
  nextEscape_range s frm b e h

/-- **`--ansi` strips, it never invents**: for arbitrary bytes and any colour state carried over from
    the previous line, the stripped text is a sublist of the line — no character is added, altered
    or moved; what disappears is what the scanner reported. -/
theorem C11_strip_only_removes (s : Bytes) (st : Option State) (idBase : Nat) :
    (extractColor s st idBase).1.toList.Sublist s.toList :=
  -- `extractColor` is, by definition, `extractFinish` of what the loop ends with
  stripInv_finish <|
    extractLoop_invariant (I := StripInv s) stripInv_step _ _ ⟨rfl, by simp⟩

/-- **The colour spans are ordered and never overlap**: for arbitrary bytes (well-formed sequences or
    not, valid UTF-8 or not) and any colour state carried over from the previous line, no span
    `extractColor` returns is inverted (`begin ≤ end`) and every span ends where or before every
    later one begins — so no character ever gets two colours. -/
theorem C11_spans_ordered (s : Bytes) (st : Option State) (idBase : Nat) (offs : List Offset)
    (h : (extractColor s st idBase).2.1 = some offs) :
    (∀ o ∈ offs, o.b ≤ o.e) ∧ offs.Pairwise (fun a b => a.e ≤ b.b) :=
  extractFinish_spans
    (extractLoop_invariant (I := fun x => SpansOk x.offsets.toList x.runeCount)
      spansOk_round _ _ (spansOk_start st)) h

theorem paintStep_length (acc : Spec.Pen × List Spec.Cell) (o : Spec.Op) :
    (Spec.paintStep acc o).2.length = acc.2.length + Spec.opChars o := by
  cases o <;> simp [Spec.paintStep, Spec.opChars]

/-- The abstract colouring assigns exactly one cell to every character of the text. -/
theorem C11_paint_length (pen : Spec.Pen) (ops : List Spec.Op) :
    (Spec.paint pen ops).length = (ops.map Spec.opChars).sum := by
  suffices h : ∀ acc, (ops.foldl Spec.paintStep acc).2.length = acc.2.length + (ops.map Spec.opChars).sum from
    (h (pen, [])).trans (Nat.zero_add _)
  induction ops with
  | nil => exact fun _ => rfl
  | cons o rest ih =>
    intro acc
    rw [List.foldl_cons, ih, paintStep_length, List.map_cons, List.sum_cons, Nat.add_assoc]

/-- int32 conversions used for 256-colour / 24-bit colours are the identity on colour values. -/
theorem C11_color_in_range (r g b : Nat) (hr : r < 256) (hg : g < 256) (hb : b < 256) :
    toI32 (16777216 + r * 65536 + g * 256 + b) = 16777216 + r * 65536 + g * 256 + b := by
  unfold toI32; omega

example : Plain #[97, 32, 195, 169] := by unfold Plain; decide
example : (extractColor #[27, 91, 51, 50, 109, 116, 27, 91, 75] none).2.1 = some [⟨0, 1, { fg := 2 }⟩] := by decide

end Fzf.Props.C11
