import Fzf.Lemmas.FilterOnce
import Fzf.Lemmas.Merger
import Fzf.Generated.GoFuncs
/-
C04 — results are the matched lines, each once, in rank order.
-/
namespace Fzf.Props.C04
open Fzf Fzf.Rank

/-- The amd64 fast path (four uint16 read as one little-endian uint64) is the generic
    lexicographic comparison of (points[3], points[2], points[1], points[0], index). -/
theorem C04_cmp64_eq_generic (a b : R) (tac : Bool) (ha : WF a) (hb : WF b) :
    compareRanks64 a b tac = compareRanksGeneric a b tac := by
  rw [cmp_eq_go, Bool.eq_iff_iff]
  unfold compareRanksGeneric packed
  simp only [compareRanksGeneric.go_cons_iff]
  rw [digit_lex_iff (wf_get a ha 0) (wf_get b hb 0), digit_lex_iff (wf_get a ha 1) (wf_get b hb 1),
    digit_lex_iff (wf_get a ha 2) (wf_get b hb 2)]

/-- The sort key as a tuple: score point first, then the tiebreak points, compared
    lexicographically; the numeric order of the packed word is that order. -/
theorem C04_packed_lt_iff_lex (a b : R) (ha : WF a) (hb : WF b) :
    packed a < packed b ↔
      (a.pts.getD 3 0 < b.pts.getD 3 0 ∨ (a.pts.getD 3 0 = b.pts.getD 3 0 ∧
        (a.pts.getD 2 0 < b.pts.getD 2 0 ∨ (a.pts.getD 2 0 = b.pts.getD 2 0 ∧
          (a.pts.getD 1 0 < b.pts.getD 1 0 ∨ (a.pts.getD 1 0 = b.pts.getD 1 0 ∧
            a.pts.getD 0 0 < b.pts.getD 0 0)))))) := by
  unfold packed
  rw [digit_lt_iff (wf_get a ha 0) (wf_get b hb 0), digit_lex_iff (wf_get a ha 1) (wf_get b hb 1),
    digit_lex_iff (wf_get a ha 2) (wf_get b hb 2)]

/-- On results of distinct items the comparison is a strict total order: exactly one of
    `less a b`, `less b a` holds (so the sorted permutation is unique and the instability of
    sort.Sort is irrelevant), for --tac and not. -/
theorem C04_less_total_asymm (a b : R) (tac : Bool) (hidx : a.index ≠ b.index) :
    compareRanks64 a b tac = !compareRanks64 b a tac := cmp_total_asymm tac hidx

theorem C04_less_trans (a b c : R) (tac : Bool)
    (hab : compareRanks64 a b tac = true) (hbc : compareRanks64 b c tac = true) : compareRanks64 a c tac = true :=
  cmp_trans hab hbc

/-- The worker partitions are consecutive slices whose concatenation is the snapshot: every
    chunk is scanned by exactly one worker, for every chunk count and every partition count. -/
theorem C04_slices_partition (partitions : Nat) (chunks : List α) (hp : 0 < partitions) (hc : chunks ≠ []) :
    (sliceChunks partitions chunks).flatten = chunks := by
  unfold sliceChunks
  simp only  -- opens the `let`
  split
  · exact sliceGo_flatten 1 chunks.length chunks (List.length_pos_iff.mpr hc)
  · exact sliceGo_flatten _ partitions chunks hp

/-- … and there are at most `partitions` of them. -/
theorem C04_slices_count (partitions : Nat) (chunks : List α) :
    (sliceChunks partitions chunks).length ≤ max partitions chunks.length := by
  unfold sliceChunks
  simp only  -- opens the `let`
  split
  · rw [sliceGo_length]; exact Nat.le_max_right ..
  · rw [sliceGo_length]; exact Nat.le_max_left ..

/-- **Merging the workers' lists is sorting.** If every worker's list is in rank order (which
    sort.Sort guarantees) and the results belong to distinct items, then after as many rounds of
    `mergedGet` as there are results — for any number of lists, any lengths, --tac or not — the
    merged list is in rank order and is a permutation of all results: each matched line once, in the
    order of the sort key. -/
theorem C04_merge_is_sort (lists : List (List R)) (tac : Bool)
    (hs : ∀ l ∈ lists, l.Pairwise fun a b => compareRanks64 a b tac = true)
    (hd : DistinctIdx lists.flatten) :
    ∃ m, mergeN lists.flatten.length (Merger.new lists true tac) = some m ∧
      (m.merged.Pairwise fun a b => compareRanks64 a b tac = true) ∧ m.merged.Perm lists.flatten := by
  obtain ⟨s, cur, hm, hinv, hlen⟩ :=
    mergeN_run lists.flatten.length (Merger.new lists true tac) hs hd (new_inv ..) (Nat.le_of_eq (Nat.zero_add _))
  refine ⟨_, hm, hinv.sorted, ?_⟩
  -- nothing is left
  have hrem : rems lists cur = [] := by
    have : s.length + (rems lists cur).length = lists.flatten.length := hinv.count
    rw [hlen] at this
    exact List.length_eq_zero_iff.mp (Nat.add_left_cancel (k := 0) this)
  have p := takes_rems_perm lists cur hinv.len
  rw [hrem, List.append_nil] at p
  exact hinv.perm.trans p

/-- **The merge is lazy without being observable**: after `k` rounds exactly the first `k` results
    of the complete merge are there, so `Get(i)` is the `i`-th result of the sorted list whatever
    was requested before (scrolling, jumping to the end, searching an index). -/
theorem C04_lazy_any_order (lists : List (List R)) (tac : Bool)
    (hs : ∀ l ∈ lists, l.Pairwise fun a b => compareRanks64 a b tac = true)
    (hd : DistinctIdx lists.flatten) (k : Nat) (hk : k ≤ lists.flatten.length) :
    ∃ mk mall, mergeN k (Merger.new lists true tac) = some mk ∧
      mergeN lists.flatten.length (Merger.new lists true tac) = some mall ∧
      mk.merged = mall.merged.take k := by
  obtain ⟨s, cur, hmk, hinv, hlen⟩ :=
    mergeN_run k (Merger.new lists true tac) hs hd (new_inv ..) ((Nat.zero_add k).symm ▸ hk)
  obtain ⟨s', cur', hall, _, _⟩ := mergeN_run (lists.flatten.length - k) _ hs hd hinv
    (hlen.symm ▸ Nat.le_of_eq (Nat.add_sub_cancel' hk))
  -- `k` rounds give `s`, the remaining rounds from that state append `s'`: the complete merge is `s ++ s'`
  rw [← Nat.add_sub_cancel' hk, mergeN_add, hmk]
  exact ⟨_, _, rfl, hall, (List.take_left' hlen).symm⟩

/-- Each round appends exactly one result and never touches the ones already merged. -/
theorem C04_round_appends (m m' : Merger) (h : m.mergeStep = some m') : ∃ r, m'.merged = m.merged ++ [r] := by
  unfold Merger.mergeStep at h
  split at h
  · cases h
  · cases h; exact ⟨_, rfl⟩

/-- **Pass-through results (empty query, `--no-sort`) are the loaded items, each once, in input
    order**: for every chunk layout a snapshot can have — the first chunk partial after `--tail`
    trimming, the middle chunks full, the last one partially filled — and every chunk size,
    `Get(i)` is the `i`-th item of the concatenated chunks (`none` beyond the end). -/
theorem C04_pass_get (cs : Nat) (hcs : 0 < cs) (chunks : List (List Int)) (h : Layout cs chunks) (idx : Nat) :
    passGet cs chunks false idx = chunks.flatten[idx]? := by
  unfold passGet
  simp only [Bool.false_eq_true, if_false, Int.not_lt.2 (Int.natCast_nonneg idx), Int.toNat_natCast]
  cases chunks with
  | nil => rfl
  | cons first rest =>
    obtain ⟨hf, hu⟩ := h
    simp only [List.flatten_cons]
    by_cases hi : idx < first.length
    · -- inside the first chunk `idx < cs`: chunk 0, offset `idx`
      rw [if_neg (fun h => Nat.not_le_of_lt hi h.2), Nat.div_eq_of_lt (Nat.lt_of_lt_of_le hi hf),
        Nat.mod_eq_of_lt (Nat.lt_of_lt_of_le hi hf), List.getElem?_append_left hi]
      rfl
    · -- beyond the first chunk both branches look up `idx - first.length` in `rest`
      obtain ⟨j, rfl⟩ := Nat.exists_eq_add_of_le (Nat.le_of_not_lt hi)
      rw [List.getElem?_append_right (Nat.le_add_right ..), Nat.add_sub_cancel_left, uniform_get cs hcs rest j hu]
      split
      · rfl
      · next hfull =>  -- the first chunk is full: the arithmetic of the other branch applies
        have : first.length = cs := by omega
        rw [this, Nat.add_div_left _ hcs, Nat.add_mod_left]
        rfl

/-- … and in reverse input order under `--tac`. -/
theorem C04_pass_get_tac (cs : Nat) (hcs : 0 < cs) (chunks : List (List Int)) (h : Layout cs chunks) (idx : Nat) :
    passGet cs chunks true idx = chunks.flatten.reverse[idx]? := by
  by_cases hidx : idx < chunks.flatten.length
  · rw [List.getElem?_reverse hidx, ← C04_pass_get cs hcs chunks h]
    unfold passGet
    simp only [← List.length_flatten, if_true, Bool.false_eq_true, if_false]
    -- under `--tac` position `idx` is position `count - 1 - idx` of the input order
    rw [show ((chunks.flatten.length : Int) - idx - 1) = ((chunks.flatten.length - 1 - idx : Nat) : Int) by omega]
  · -- beyond the end `count - idx - 1` is negative
    unfold passGet
    simp only [← List.length_flatten, if_true]
    rw [if_pos (by omega), List.getElem?_eq_none (by rw [List.length_reverse]; omega)]

/-- The clamp applied to every rank point is the function in the source: `util.AsUint16`,
    translated from /repo on every run, is the model's `asUint16`; a rank point always fits in the
    16 bits it is packed into. -/
theorem C04_asUint16_is_source (v : Int) :
    Generated.Go.AsUint16 v = (asUint16 v : Int) ∧ asUint16 v < 65536 := by
  unfold Generated.Go.AsUint16 asUint16
  simp only [decide_eq_true_eq]
  split
  · exact ⟨rfl, by decide⟩
  · split
    · exact ⟨rfl, by decide⟩
    · exact ⟨(Int.toNat_of_nonneg (Int.not_lt.mp ‹_›)).symm, by omega⟩

-- non-vacuity: two sorted lists of distinct items
example : (∀ l ∈ [[(⟨[0, 0, 1, 65499], 1⟩ : R), ⟨[0, 0, 4, 65499], 2⟩], [⟨[0, 0, 2, 65499], 3⟩]],
    l.Pairwise fun a b => compareRanks64 a b false = true) ∧
    DistinctIdx ([[(⟨[0, 0, 1, 65499], 1⟩ : R), ⟨[0, 0, 4, 65499], 2⟩], [⟨[0, 0, 2, 65499], 3⟩]].flatten) :=
  ⟨by decide, by unfold DistinctIdx; decide⟩

example : ((mergeN 3 (Merger.new [[(⟨[0, 0, 1, 65499], 1⟩ : R), ⟨[0, 0, 4, 65499], 2⟩], [⟨[0, 0, 2, 65499], 3⟩]] true false)).map
    (·.merged.map (·.index))) = some [1, 3, 2] := rfl

example : Layout 3 [[7, 8], [9, 10, 11], [12, 13, 14], [15]] := ⟨by decide, rfl, rfl, (by decide : 1 ≤ 3)⟩
example : passGet 3 [[7, 8], [9, 10, 11], [12, 13, 14], [15]] false 5 = some 12 := by decide
example : WF ⟨[65535, 0, 7, 65499], 3⟩ := ⟨rfl, by decide⟩
example : compareRanks64 ⟨[0, 0, 1, 65499], 1⟩ ⟨[0, 0, 4, 65499], 2⟩ true = true := by decide
example : sliceChunks 3 [0, 1, 2, 3, 4, 5, 6] = [[0, 1], [2, 3], [4, 5, 6]] := rfl

/-- **Each line once.** Whatever the query, the tiebreak criteria, --tac / --no-sort / --tail and
    the behaviour of the match functions: `fzf --filter` never prints an input record twice (the
    item numbers of its output are pairwise distinct). Together with `C07_filter_prints_originals`
    (every printed record is an input record) the output is a selection of the input lines. -/
theorem C04_each_line_once (o : Filter.Opts) (slabCap : Nat) (query : Str) (lines : List Str)
    (out : List (Nat × Str)) (h : Filter.runIdx o slabCap query lines = some out) : (out.map (·.1)).Nodup := by
  -- up to order the numbers are those of the shown items, a sublist of the built items, whose numbers increase
  refine ((Filter.runIdx_perm o slabCap query lines out h).map _).nodup_iff.mpr ?_
  rw [List.map_map]
  exact List.pairwise_map.mpr (((Filter.buildItems_increasing o lines).sublist
    (List.filter_sublist.trans (Filter.itemsOf_sublist o lines))).imp Nat.ne_of_lt)

end Fzf.Props.C04
