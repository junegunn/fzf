import Fzf.Lemmas.Exact
import Fzf.Lemmas.Anchored
import Fzf.Generated.AlgoConsts
/-
C03 — scores follow the documented scoring model.
The definitions in `Fzf.Generated` are rewritten from /repo on every run (harness/extract runs
algo.Init per scheme and dumps the constants and tables).
-/
namespace Fzf.Props.C03
open Fzf Fzf.Algo

/-- The constants of algo.go are the documented ones: 16 per matched character, gap penalties
    -3 / -1, boundary bonus 8, non-word 8, camelCase/number 7, consecutive 4, first character ×2. -/
theorem C03_consts_documented :
    Generated.scoreMatch = 16 ∧ Generated.scoreGapStart = -3 ∧ Generated.scoreGapExtension = -1 ∧
    Generated.bonusBoundary = 8 ∧ Generated.bonusNonWord = 8 ∧ Generated.bonusCamel123 = 7 ∧
    Generated.bonusConsecutive = 4 ∧ Generated.bonusFirstCharMultiplier = 2 ∧
    Generated.scoreMatch = scoreMatch ∧ Generated.scoreGapStart = scoreGapStart ∧
    Generated.scoreGapExtension = scoreGapExtension ∧ Generated.bonusBoundary = bonusBoundary ∧
    Generated.bonusNonWord = bonusNonWord ∧ Generated.bonusCamel123 = bonusCamel123 ∧
    Generated.bonusConsecutive = bonusConsecutive ∧
    Generated.bonusFirstCharMultiplier = bonusFirstCharMultiplier := by decide

/-- Scheme-dependent bonuses: white 10/8/8, delimiter 9/9/8 for default/path/history; the
    initial class and delimiter sets are the model's. -/
theorem C03_scheme_globals :
    (Generated.default_bWhite, Generated.default_bDelim, Generated.default_initClass, Generated.default_delims)
      = (schemeDefault.bWhite, schemeDefault.bDelim, schemeDefault.initClass, schemeDefault.delims) ∧
    (Generated.path_bWhite, Generated.path_bDelim, Generated.path_initClass, Generated.path_delims)
      = (schemePath.bWhite, schemePath.bDelim, schemePath.initClass, schemePath.delims) ∧
    (Generated.history_bWhite, Generated.history_bDelim, Generated.history_initClass, Generated.history_delims)
      = (schemeHistory.bWhite, schemeHistory.bDelim, schemeHistory.initClass, schemeHistory.delims) ∧
    (schemeDefault.bWhite, schemeDefault.bDelim) = (10, 9) ∧ (schemePath.bWhite, schemePath.bDelim) = (8, 9) ∧
    (schemeHistory.bWhite, schemeHistory.bDelim) = (8, 8) ∧
    Generated.whiteCharsAscii = whiteAscii := by decide

/-- The 128-entry character-class table built by `Init` is the model's `asciiClass`, per scheme. -/
theorem C03_ascii_classes :
    (List.range 128).map (asciiClass schemeDefault) = Generated.default_asciiClasses ∧
    (List.range 128).map (asciiClass schemePath) = Generated.path_asciiClasses ∧
    (List.range 128).map (asciiClass schemeHistory) = Generated.history_asciiClasses := by decide

def matrixOf (sch : Scheme) : List (List Int) :=
  (List.range 7).map fun i => (List.range 7).map fun j => bonusFor sch i j

/-- The 7×7 bonus matrix built by `Init` is the model's `bonusFor`, per scheme. -/
theorem C03_bonus_matrix :
    matrixOf schemeDefault = Generated.default_bonusMatrix ∧
    matrixOf schemePath = Generated.path_bonusMatrix ∧
    matrixOf schemeHistory = Generated.history_bonusMatrix := by decide

/-- The documented bonus rules, stated outright for every pair of classes and every scheme value:
    a word character after whitespace / a delimiter / another non-word character gets the
    boundary bonus of that kind; lower→upper and non-digit→digit get the camelCase bonus;
    a non-word or delimiter character gets the non-word bonus; whitespace gets the white
    bonus; everything else nothing. -/
theorem C03_bonus_rules (sch : Scheme) (prev cls : Nat) (hp : prev < 7) (hc : cls < 7) :
    (cls > cNonWord → prev = cWhite → bonusFor sch prev cls = sch.bWhite) ∧
    (cls > cNonWord → prev = cDelim → bonusFor sch prev cls = sch.bDelim) ∧
    (cls > cNonWord → prev = cNonWord → bonusFor sch prev cls = bonusBoundary) ∧
    (prev = cLower → cls = cUpper → bonusFor sch prev cls = bonusCamel123) ∧
    (prev > cDelim → prev ≠ cNumber → cls = cNumber → bonusFor sch prev cls = bonusCamel123) ∧
    (prev > cDelim → (cls = cNonWord ∨ cls = cDelim) → bonusFor sch prev cls = bonusNonWord) ∧
    (cls = cWhite → bonusFor sch prev cls = sch.bWhite) ∧
    (prev > cDelim → cls = prev → cls ≠ cNumber ∨ prev = cNumber → bonusFor sch prev cls = 0) :=
  bonusFor_rules sch prev cls

/-- **The scoring walk on an occurrence.** On a range `[s, s+m)` of a line in which every position
    carries the corresponding term character, `calculateScore` — the routine behind exact,
    prefix and suffix terms and FuzzyMatchV1 — returns the documented score of that occurrence
    (`occScore`: 16 per character plus its bonus; the first character's bonus doubled; inside the
    run at least the consecutive bonus and at least the run's first bonus; a larger boundary
    bonus restarts the run). It is a function of the line and the range alone: two terms
    occupying the same range score the same. -/
theorem C03_calculateScore_on_occurrence (cfg : Cfg) (cs norm : Bool) (t p : Text) (s : Nat)
    (hfit : s + p.size ≤ t.size)
    (hocc : ∀ i, i < p.size → foldRune cfg cs norm (t.getD (s + i) 0) = p.getD i 0) :
    calculateScore cfg cs norm t p s (s + p.size) false = .ok (occScore cfg t s p.size, Option.none) :=
  calculateScore_occ cfg cs norm t p s hfit hocc

/-- **Exact terms (`'term`, every term under --exact) are scored as the occurrence they report**,
    whichever of several occurrences the search picks and in whichever direction it runs. -/
theorem C03_exact_scored_as_occurrence (cfg : Cfg) (cs norm fwd : Bool) (t : Text) (isBytes : Bool) (p : Text)
    (hm : 0 < p.size) (r : Res) (hr : exactMatchNaive cfg cs norm fwd false t isBytes p = .ok r) (hs : 0 ≤ r.start) :
    r.score = occScore cfg t r.start.toNat p.size := by
  obtain ⟨s, hstart, _, _, _, hscore⟩ := (exactMatchNaive_spec cfg cs norm fwd false t isBytes p hm).elim hr hs
  rw [hstart, Int.toNat_natCast]
  exact hscore rfl

/-- **Prefix terms (`^term`) are scored as the occurrence they report.** -/
theorem C03_prefix_scored_as_occurrence (cfg : Cfg) (cs norm : Bool) (t p : Text) (hp : 0 < p.size) (r : Res)
    (hr : prefixMatch cfg cs norm t p = .ok r) (hm : 0 ≤ r.start) :
    r.score = occScore cfg t r.start.toNat p.size := by
  rw [((prefixMatch_spec cfg cs norm t p hp rfl).elim hr).2 hm]; simp

/-- **Suffix terms (`term$`) are scored as the occurrence they report.** -/
theorem C03_suffix_scored_as_occurrence (cfg : Cfg) (cs norm : Bool) (t p : Text) (hp : 0 < p.size) (r : Res)
    (hr : suffixMatch cfg cs norm t p = .ok r) (hm : 0 ≤ r.start) :
    r.score = occScore cfg t r.start.toNat p.size := by
  rw [((suffixMatch_spec cfg cs norm t p hp).elim hr).2 hm]; simp

/-- **Bounds of an occurrence score** in the three schemes: an occurrence of `m ≥ 1` characters
    scores at least `16m + 4(m-1)` (every character after the first earns the consecutive bonus)
    and at most `16m + 10(m+1)` (no bonus exceeds 10, the first counts twice). -/
theorem C03_occurrence_score_bounds (cfg : Cfg) (t : Text) (s m : Nat) (hm : 0 < m)
    (hs : cfg.sch = schemeDefault ∨ cfg.sch = schemePath ∨ cfg.sch = schemeHistory) :
    (16 : Int) * m + 4 * (m - 1) ≤ occScore cfg t s m ∧ occScore cfg t s m ≤ (16 : Int) * m + 10 * (m + 1) :=
  occScore_bounds cfg t (bonusFor_range hs) s hm

example : bonusFor schemeDefault cWhite cLower = 10 ∧ bonusFor schemePath cDelim cLower = 9 ∧
    bonusFor schemeHistory cLower cUpper = 7 ∧ bonusFor schemeDefault cLower cLower = 0 := by decide

/-- `^ab` on "ab-c" in the default scheme: 'a' at the start of the line earns the whitespace
    bonus 10 twice, 'b' the run's first bonus: 16 + 20 + 16 + 10 = 62. -/
example : occScore { U := ⟨id, fun c => c == 32, fun _ => 3⟩, sch := schemeDefault, norm := id } #[97, 98, 45, 99] 0 2 = 62 := by decide

end Fzf.Props.C03
