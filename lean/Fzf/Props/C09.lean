import Fzf.Lemmas.Terminal
import Fzf.Generated.GoFuncs
/-
C09 — query line, cursor and selection evolve exactly as the actions prescribe.
-/
namespace Fzf.Props.C09
open Fzf Fzf.Terminal

/-- Every action keeps the query cursor inside the query. -/
theorem C09_cx_in_range_act (op : Opts) (s : TS) (a : Action) (h : CxOk s) : CxOk (act op s a) := by
  have hpred : s.cx - 1 ≤ s.input.length := Nat.le_trans (Nat.sub_le _ _) h
  fun_cases act op s a
  -- the cursor moves on the line as it is
  case case1 | case18 => exact Nat.zero_le _                               -- beginning-of-line, unix-line-discard: column 0
  case case3 => exact hpred                                                -- backward-char
  case case4 hlt => exact hlt                                              -- forward-char
  case case6 => exact lastBoundary_take_le                                 -- backward-word
  case case7 => exact nextBoundary_drop_le h                               -- forward-word
  -- the cursor is put at the end of the new line: end-of-line, change-query, clear-query, replace-query, cancel
  case case2 | case30 | case31 | case32 | case35 => exact Nat.le_refl _
  -- the line is cut or text is inserted where the cursor is afterwards
  case case20 | case22 => exact cursor_after_cut lastBoundary_take_le      -- unix-word-rubout, backward-kill-word (`rubout`)
  case case8 | case10 | case24 => exact cursor_after_cut h                 -- delete-char, delete-char/eof, kill-word
  case case13 | case16 => exact cursor_after_cut hpred                     -- backward-delete-char, backward-delete-char/eof
  case case26 => exact Nat.le_of_eq (List.length_take_of_le h).symm        -- kill-line
  case case28 | case29 => exact cursor_after_insert h _ _                  -- yank, put
  -- the line is as it was, under a function of the state
  case case38 | case39 | case40 => exact constrain_cxOk op _ h             -- first, last, pos
  case case45 => exact selectItem_inv op s _ h fun _ => h                  -- select
  case case51 => exact toggleCurrent_inv op s h (fun _ _ => h) fun _ => h  -- toggle
  case case57 | case61 =>                                                  -- select-all, toggle-all
    exact selectMany_inv op h fun t i ht => selectItem_inv op t i ht fun _ => ht
  -- every other branch returns the state with fields other than `input` and `cx` changed, or as it is
  all_goals exact h

/-- Every action keeps the selection within the `--multi` limit (nothing is selectable when
    the limit is 0, i.e. without `--multi`). -/
theorem C09_sel_limit_act (op : Opts) (s : TS) (a : Action) (h : SelOk op s) : SelOk op (act op s a) := by
  fun_cases act op s a
  case case38 | case39 | case40 => exact constrain_selOk op _ h      -- first, last, pos
  case case45 => exact selectItem_selOk op s _ h                     -- select
  case case51 => exact toggleCurrent_selOk op s h                    -- toggle
  case case57 => exact selectMany_selOk op h                         -- select-all
  case case61 => exact selectMany_selOk op (selOk_filter h)          -- toggle-all
  case case48 | case59 | case68 => exact selOk_filter h              -- deselect, deselect-all, exclude
  case case63 | case66 | case70 => exact Nat.zero_le _               -- clear-selection, reload, exclude-multi: nothing selected
  -- every other branch leaves `selected` alone
  all_goals exact h

theorem C09_cx_in_range_actStep (op : Opts) (s : TS) (a : Action) (h : CxOk s) : CxOk (actStep op s a) :=
  actStep_inv op s a h (C09_cx_in_range_act op s a h) (toggleCurrent_inv op s h (fun _ _ => h) fun _ => h)
    (fun _ _ ht => ht) fun _ _ => Nat.le_refl _

theorem C09_sel_limit_actStep (op : Opts) (s : TS) (a : Action) (h : SelOk op s) : SelOk op (actStep op s a) :=
  actStep_inv op s a h (C09_sel_limit_act op s a h) (toggleCurrent_selOk op s h) (fun _ _ ht => ht) fun _ ht => ht

/-- **A hidden input section does not take input.** While the input section is hidden
    (--no-input, hide-input, toggle-input), no action changes the query — whatever it is, also
    change-query, put, kills and yank — and the query cursor rests at its end. -/
theorem C09_hidden_input_keeps_query (op : Opts) (s : TS) (a : Action) (h : (actStep op s a).inputless = true) :
    (actStep op s a).input = s.input := by
  unfold actStep at h ⊢
  by_cases hs : s.outcome.isSome = true
  · rw [if_pos hs]
  · rw [if_neg hs] at h ⊢
    exact hideEdits_input h

/-- hide-input, then change-query: the query stays; show-input, then change-query: it changes. -/
example :
    let op : Opts := { multi := 0, cycle := false, layout := .default, maxItems := 5, total := 0, isWord := fun _ => true,
                       resultsOf := fun _ _ => [], itemText := fun _ => [] }
    let s : TS := { input := [97, 98], cx := 1, results := [] }
    (([Action.hideInput, .changeQuery [120]].foldl (actStep op) s).input, ([Action.hideInput, .changeQuery [120]].foldl (actStep op) s).cx,
     ([Action.hideInput, .showInput, .changeQuery [120]].foldl (actStep op) s).input) = ([97, 98], 2, [120]) := rfl

/-- For every history of action lists — any lists, window heights, layouts, limits, --cycle —
    the query cursor is inside the query, never more than `--multi` items are selected, and after
    rendering the list cursor designates an existing result (or is 0 on an empty list). -/
theorem C09_invariants (op : Opts) (s : TS) (hist : List (List Action)) (h1 : CxOk s) (h2 : SelOk op s) :
    let s' := hist.foldl (step op) s
    CxOk s' ∧ SelOk op s' := by
  refine ⟨steps_inv op (C09_cx_in_range_actStep op) (fun b s _ => afterActions_ind op b s fun _ _ _ => ?_) hist s h1,
    steps_inv op (C09_sel_limit_actStep op) (fun b s h => afterActions_ind op b s fun _ _ _ => h) hist s h2⟩
  -- the truncated query and its cursor
  show min _ _ ≤ (List.take _ _).length
  rw [List.length_take, Nat.min_comm maxPatternLength]
  exact Nat.min_le_right _ _

/- A fresh session satisfies both invariants. -/
example : CxOk { results := [0, 1, 2] } ∧ SelOk ⟨2, false, .default, 5, 0, 3, 3, false, fun _ => true, fun _ _ => [0, 1, 2], fun _ => []⟩ { results := [0, 1, 2] } :=
  ⟨Nat.le_refl 0, Nat.zero_le 2⟩

/-- After rendering, the list cursor designates an existing result, or none when the list is empty. -/
theorem C09_cursor_valid (op : Opts) (s : TS) :
    let s' := constrain op s
    (s'.results = [] → s'.cy = 0 ∧ currentItem s' = none) ∧
    (s'.results ≠ [] → 0 ≤ s'.cy ∧ s'.cy < s'.results.length ∧ (currentItem s').isSome = true) := by
  -- all that is needed of `constrain`: it clamps `cy` to `[0, max 0 (count - 1)]`
  have hb : 0 ≤ (constrain op s).cy ∧ (constrain op s).cy ≤ max 0 (((constrain op s).results.length : Int) - 1) :=
    constrainInt_range s.cy 0 _ (Int.le_max_left _ _)
  generalize constrain op s = s' at hb ⊢
  refine ⟨fun h => ?_, fun h => ?_⟩
  · rw [h] at hb
    have h0 : s'.cy = 0 := Int.le_antisymm hb.2 hb.1  -- the upper bound `max 0 (0 - 1)` is 0
    refine ⟨h0, ?_⟩
    unfold currentItem
    rw [h0, h]
    rfl
  · have hlt : s'.cy < s'.results.length := Int.lt_of_le_of_lt hb.2
      (Int.max_lt.mpr ⟨Int.natCast_pos.mpr (List.length_pos_iff.mpr h), Int.sub_one_lt_of_le (Int.le_refl _)⟩)
    exact ⟨hb.1, hlt, currentItem_isSome hb.1 hlt⟩

/-- **The cursor is always on screen.** After `constrain` (run at the end of every action list and
    at once by first / last / pos), with a list window of at least one row and a non-empty result
    list: the current result is inside the window (`offset ≤ cy < offset + rows`) — whatever the
    cursor and the scroll offset were before, for every window height, --scroll-off and list
    length — and the window does not scroll past the end of the list unless the list is shorter
    than the window. (While the input section is hidden the list has its rows too: `rowsOf`.) -/
theorem C09_cursor_on_screen (op : Opts) (s : TS) (hrows : 0 < rowsOf op s) (hne : s.results ≠ []) :
    let s' := constrain op s
    0 ≤ s'.offset ∧ s'.offset ≤ s'.cy ∧ s'.cy < s'.offset + (rowsOf op s : Int) ∧
    s'.offset ≤ max ((s.results.length : Int) - (rowsOf op s : Int)) 0 := by
  have hcy := constrainInt_range s.cy 0 (max 0 ((s.results.length : Int) - 1)) (Int.le_max_left _ _)
  have hr : (0 : Int) < rowsOf op s := Int.natCast_pos.mpr hrows
  unfold constrain
  dsimp only
  rw [if_neg (Nat.ne_of_gt hrows)]
  generalize constrainInt s.cy 0 (max 0 ((s.results.length : Int) - 1)) = cy at hcy ⊢
  -- the settled offset is a value of `step`, and those lie in [minOffset, maxOffset]
  refine constrain.iter_ind (P := fun o => 0 ≤ o ∧ o ≤ cy ∧ cy < o + (rowsOf op s : Int) ∧
      o ≤ max ((s.results.length : Int) - (rowsOf op s : Int)) 0)
    (fun x => on_screen_of_offset hcy.1 ?_) fun h0 => absurd h0 (Nat.ne_of_gt hrows)
  have hc := constrainInt_range x _ _
    (minOffset_le_maxOffset hr hcy.2 (Int.natCast_pos.mpr (List.length_pos_iff.mpr hne)))
  split
  · exact constrain.phase1_range (constrain.phase0_range hc)  -- --scroll-off
  · exact hc

/-- `toggle` is an involution on the selection as long as the limit does not interfere. -/
theorem C09_toggle_involution (op : Opts) (s : TS) (i : Nat) (hc : currentItem s = some i)
    (hroom : s.selected.length < op.multi) (hnot : i ∉ s.selected) :
    (toggleCurrent op (toggleCurrent op s).1).1.selected = s.selected := by
  -- toggling does not move the list cursor
  have hc' : currentItem (toggleCurrent op s).1 = some i :=
    toggleCurrent_inv (P := fun t => currentItem t = some i) op s hc (fun _ _ => hc) fun _ => hc
  -- the first toggle appends `i`, the second filters it out: `(sel ++ [i]).filter (· != i) = sel`, as `i ∉ sel`
  rw [toggleCurrent_selected op hc', toggleCurrent_selected op hc, if_neg hnot, if_pos hroom,
    if_pos (List.mem_append_right _ (List.mem_singleton_self i)), List.filter_append,
    List.filter_bne_eq_self_of_not_mem hnot, List.filter_cons_of_neg (by simp), List.filter_nil, List.append_nil]

/-- Kill to end of line followed by yank restores the query line. -/
theorem C09_kill_yank_inverse (op : Opts) (s : TS) (h : CxOk s) (hlt : s.cx < s.input.length) :
    (act op (act op s .killLine) .yank).input = s.input := by
  dsimp only [act]
  rw [if_pos hlt]
  dsimp only
  rw [List.take_take, Nat.min_self, List.drop_eq_nil_of_le (List.length_take_le _ _), List.append_nil,
    List.take_append_drop]

/-- A query change keeps the selection (selections survive query changes). -/
theorem C09_sel_survives_query (op : Opts) (before s : TS) :
    (afterActions op before s).selected = s.selected :=
  afterActions_ind (P := fun t => t.selected = s.selected) op before s fun _ _ _ => rfl

/-- **`--track`: the cursor follows its item.** When a new result list arrives (query change,
    exclusion, re-sort) and the item under the cursor is still among the results, the cursor is on
    that same item afterwards, wherever it moved in the list. -/
theorem C09_track_follows (op : Opts) (s : TS) (new : List Nat) (i : Nat) (ht : op.track = true)
    (hne : s.results.length > 0) (hc : currentItem s = some i) (hin : i ∈ new) :
    currentItem (updateList op s new) = some i := by
  unfold updateList
  rw [if_pos ht, if_pos hne, hc]
  dsimp only
  cases hf : new.findIdx? (· == i) with
  | none => exact absurd (beq_self_eq_true i) (Bool.eq_false_iff.mp (List.findIdx?_eq_none_iff.mp hf i hin))
  | some k =>
    obtain ⟨hk, hki, _⟩ := List.findIdx?_eq_some_iff_getElem.mp hf
    unfold currentItem
    rw [if_pos ⟨Int.natCast_nonneg k, Int.ofNat_lt.mpr hk⟩, Int.toNat_natCast, List.getElem?_eq_getElem hk,
      eq_of_beq hki]

/-- An excluded item never comes back into the results (until a reload), whatever the query. -/
theorem C09_excluded_stays_out (op : Opts) (before s : TS) (i : Nat) (hi : i ∈ s.excluded)
    (hchg : s.excluded ≠ before.excluded) : i ∉ (afterActions op before s).results := by
  have hres : ∀ t new, (constrain op (updateList op t new)).results = new := fun t new =>
    updateList_ind (P := fun u => u.results = new) op t new fun _ _ => rfl
  unfold afterActions
  dsimp only
  rw [if_pos (Or.inr (Or.inr (bne_iff_ne.mpr hchg))), hres]
  -- the new results are filtered by `excluded`
  intro hmem
  have hout := (List.mem_filter.mp hmem).2
  rw [List.contains_iff_mem.mpr hi] at hout
  exact Bool.false_ne_true hout

/-- The clamping the cursor code relies on is the function in the source: `util.Constrain`,
    translated from /repo/src/util/util.go on every run (harness/gotolean), is the model's
    `constrainInt`, and its result lies between the bounds whenever they are ordered. -/
theorem C09_constrain_is_source (v lo hi : Int) :
    Generated.Go.Constrain v lo hi = constrainInt v lo hi ∧
    (lo ≤ hi → lo ≤ Generated.Go.Constrain v lo hi ∧ Generated.Go.Constrain v lo hi ≤ hi) := by
  have e : Generated.Go.Constrain v lo hi = constrainInt v lo hi := by
    unfold Generated.Go.Constrain constrainInt
    simp only [decide_eq_true_eq]
  exact ⟨e, fun hle => e ▸ constrainInt_range v lo hi hle⟩

/-- **Selections are dropped on reload** (and so are exclusions); the query, its cursor and the
    position of the list cursor are what they were. Query changes, by contrast, leave the selection
    alone (`C09_query_edit_keeps_selection`). -/
theorem C09_reload_drops_selection (op : Opts) (s : TS) (h : s.outcome = none) (hin : s.inputless = false) :
    (actStep op s .reload).selected = [] ∧ (actStep op s .reload).excluded = [] ∧
    (actStep op s .reload).input = s.input ∧ (actStep op s .reload).cx = s.cx ∧ (actStep op s .reload).cy = s.cy := by
  rw [actStep_eq_act (a := .reload) h ⟨nofun, nofun, nofun, nofun⟩,
    hideEdits_shown s (show (act op s .reload).inputless = false from hin)]
  exact ⟨rfl, rfl, rfl, rfl, rfl⟩

/-- … while an edit of the query leaves the selection as it is. -/
theorem C09_query_edit_keeps_selection (op : Opts) (s : TS) (q : Str) (h : s.outcome = none) :
    (actStep op s (.changeQuery q)).selected = s.selected ∧ (actStep op s (.put q)).selected = s.selected := by
  rw [actStep_eq_act (a := .changeQuery q) h ⟨nofun, nofun, nofun, nofun⟩,
    actStep_eq_act (a := .put q) h ⟨nofun, nofun, nofun, nofun⟩]
  exact ⟨hideEdits_selected, hideEdits_selected⟩

/-- **change-multi.** The limit becomes the one given (unlimited without an argument); a
    selection made while multi-select was on is dropped exactly when the limit is a different one
    — so it never exceeds the new limit by surviving a change — and nothing else changes. -/
theorem C09_change_multi (op : Opts) (s : TS) (n : Option Nat) :
    (changeMulti op s n).1.multi = n.getD unlimitedMulti ∧
    ((op.multi > 0 ∧ n.getD unlimitedMulti ≠ op.multi) → (changeMulti op s n).2.selected = []) ∧
    (¬ (op.multi > 0 ∧ n.getD unlimitedMulti ≠ op.multi) → (changeMulti op s n).2 = s) ∧
    (changeMulti op s n).2.input = s.input ∧ (changeMulti op s n).2.cy = s.cy := by
  unfold changeMulti
  dsimp only
  refine ⟨rfl, fun h => ?_, fun h => ?_, ?_⟩
  · rw [if_pos h]
  · rw [if_neg h]
  · split <;> exact ⟨rfl, rfl⟩

end Fzf.Props.C09
