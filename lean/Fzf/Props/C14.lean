import Fzf.Lemmas.KeyDecode
import Fzf.Lemmas.Render
/-
C14 — the UI never crashes or hangs and always leaves terminal and system clean.
What can be carried as a theorem is the logic: the input decoder and the width arithmetic of the
renderer. Process-level behaviour (signals, terminal modes, child processes) is exercised by the
correspondence drivers and labelled as validation in the evidence.
-/
namespace Fzf.Props.C14
open Fzf Fzf.KeyDecode

/-- **The input decoder never panics**: for every non-empty byte buffer — valid or invalid UTF-8,
    complete, truncated or garbled escape sequences, mouse reports with any numbers — with or
    without mouse support, whatever the terminal delivers later, `GetChar` returns an event (or
    waits for more input); no index is out of range, `buffer[sz:]` is always in range. -/
theorem C14_decode_total (mouse : Bool) (yoffset : Int) (cs : Clicks) (b tty : List Nat) (h : b ≠ []) :
    ∃ st, getChar mouse yoffset cs b tty = .ok st :=
  (progress_iff_post.mp (getChar_progress mouse yoffset cs b tty h)).returns

/-- **… and never spins**: every event it returns has consumed at least one pending byte. -/
theorem C14_decode_progress (mouse : Bool) (yoffset : Int) (cs : Clicks) (b tty : List Nat) (h : b ≠ [])
    (ev : Ev) (b' tty' : List Nat) (cs' : Clicks)
    (hs : getChar mouse yoffset cs b tty = .ok (some (ev, b', tty', cs'))) :
    b'.length + tty'.length < b.length + tty.length :=
  consumed_some.mp ((progress_iff_post.mp (getChar_progress mouse yoffset cs b tty h)).elim hs)

/-- **Draining a buffer terminates**: with as many steps as there are pending bytes the loop ends
    with the buffer used up or the decoder waiting for the terminal — it never runs on, never
    panics, and produces at most one event per byte. -/
theorem C14_drain_terminates (mouse : Bool) (yoffset : Int) (fuel : Nat) (cs : Clicks) (b tty : List Nat)
    (hf : b.length + tty.length ≤ fuel) :
    ∃ evs e, drain mouse yoffset fuel cs b tty = .ok (evs, e) ∧ e ≠ .outOfFuel ∧ evs.length ≤ b.length + tty.length := by
  induction fuel generalizing cs b tty with
  | zero =>
    cases List.eq_nil_of_length_eq_zero (l := b) (by omega)
    exact ⟨[], .done, rfl, nofun, Nat.zero_le _⟩
  | succ n ih =>
    rw [drain]
    split
    · exact ⟨[], .done, rfl, nofun, Nat.zero_le _⟩
    rename_i hb  -- the buffer is not empty
    obtain ⟨st, hst, hp⟩ := getChar_progress mouse yoffset cs b tty (by rintro rfl; exact hb rfl)
    rw [hst]
    obtain _ | ⟨ev, b', tty', cs'⟩ := st
    · exact ⟨[], .waiting, rfl, nofun, Nat.zero_le _⟩
    -- fewer bytes are pending, so the fuel left is enough for the rest
    have hlt := hp ev b' tty' cs' rfl
    obtain ⟨evs, e, he, hne, hlen⟩ := ih cs' b' tty' (by omega)
    exact ⟨ev :: evs, e, by simp only [he]; rfl, hne, by rw [List.length_cons]; omega⟩

/-- An escape sequence is consumed as a whole or not at all: the size `escSequence` reports
    lies within the buffer it is dropped from. -/
theorem C14_esc_in_bounds (mouse : Bool) (yoffset : Int) (cs : Clicks) (b : List Nat) (h : 1 ≤ b.length) :
    ∃ ev sz b' cs', escSequence mouse yoffset cs b = .ok (ev, sz, b', cs') ∧ 1 ≤ sz ∧ sz ≤ b'.length :=
  let ⟨(ev, sz, b', cs'), he, h1, _, h2⟩ := escSequence_ok mouse yoffset cs b
  ⟨ev, sz, b', cs', he, h1, h2 h⟩

/-- A mouse report never makes the decoder read past the buffer, whatever numbers it carries. -/
theorem C14_mouse_in_bounds (mouse : Bool) (yoffset : Int) (cs : Clicks) (b : List Nat) (h : 3 ≤ b.length) :
    1 ≤ (mouseSequence mouse yoffset cs b).2.1 ∧ (mouseSequence mouse yoffset cs b).2.1 ≤ b.length :=
  let ⟨h1, h2⟩ := mouseSequence_sz mouse yoffset cs b
  ⟨h1, h2 h⟩

/-- **Width arithmetic of a list row**: for every window width (from 0 up), every pointer / marker /
    ellipsis, every line and match position, a row has exactly the width of the window — the text
    is never drawn past the right edge, also when the window is narrower than pointer and marker. -/
theorem C14_row_within_window (o : Render.ROpts) (r : Render.RowIn) : (Render.itemRow o r).length = o.W :=
  Render.rowOf_length

theorem C14_truncation_within_room (o : Render.ROpts) (mw : Nat) (line : Str) (maxe : Nat) (hasPos : Bool) :
    (Render.fit o mw line maxe hasPos).length ≤ mw := by
  rw [Render.fit_length]; exact Nat.min_le_left _ _

/- Non-vacuity: a buffer that ends in the middle of an escape sequence, completed by the terminal. -/
example : (getChar true 0 {} [27, 91, 49, 59] [50, 65]).toOption =
    some (some (⟨Generated.Key.shiftUp, 0, none⟩, [], [], {})) := by decide

example : (drain true 0 6 {} [27, 91, 60, 48] []).toOption.map (·.2) = some .waiting := by decide
example : (getChar false 0 {} [255] []).toOption = some (some (⟨Generated.Key.esc, 0, none⟩, [], [], {})) := by decide

end Fzf.Props.C14
