import Fzf.Lemmas.Matcher
import Fzf.Lemmas.Subseq
import Fzf.Lemmas.Coordinator
/-
C08 — interactive results converge to a fresh filter of the current query.
The three mechanisms that stand between the latest request and what is
displayed (mailbox, chunk cache, merger cache) are unobservable.
-/
namespace Fzf.Props.C08
open Fzf Fzf.Matcher Fzf.Algo

/-- **The most recent request wins.** Whatever mix of retry / reset requests was posted while the
    matcher was busy, the one it takes next is the one posted last. -/
theorem C08_latest_request_wins {α : Type} (ps : List (Bool × α)) (last : Bool × α) :
    (take (postAll {} (ps ++ [last]))).1.map (·.body) = some last.2 :=
  take_postAll {} ⟨nofun, nofun⟩ ps last

/-- After a request was taken the mailbox is empty: nothing is served twice. -/
theorem C08_take_clears {α : Type} (b : Box α) : (take (take b).2).1 = none := rfl

/-- **The chunk cache is transparent.** For any family of patterns in which (1) a cacheable
    pattern is determined by its cache key and (2) whatever matches a pattern also matches the
    cacheable pattern of every shorter prefix / suffix key, any history of matches against a chunk
    sharing one cache returns, for each pattern, exactly the items of the chunk it matches, in
    chunk order — whether the answer came from an exact hit, from narrowing a cached prefix /
    suffix result, or from a full scan. -/
theorem C08_chunk_cache_transparent {Item : Type} (sem : Str → Item → Bool) (Buildable : Pat Item → Prop)
    (keySem : ∀ p, Buildable p → p.cacheable = true → ∀ i, p.sat i = sem p.key i)
    (mono : ∀ p, Buildable p → ∀ k' ∈ subkeys p.key, ∀ i, p.sat i = true → sem k' i = true)
    (cacheMax : Nat) (items : List Item) (full : Bool) (ps : List (Pat Item)) (hps : ∀ p ∈ ps, Buildable p) :
    runPats cacheMax items full [] ps = ps.map fun p => items.filter p.sat :=
  runPats_transparent keySem mono cacheMax items full ps hps [] nofun

/-- Hypothesis (2) for one fuzzy term under fixed case / normalisation flags: a line that has the
    term as a subsequence has every sub-key of it as a subsequence. -/
theorem C08_fuzzy_narrowing (term line : Str) (k' : Str) (hk : k' ∈ subkeys term)
    (h : Spec.isSubseq term line = true) : Spec.isSubseq k' line = true := by
  rw [Spec.isSubseq_iff] at h ⊢
  exact (subkeys_infix term k' hk).sublist.trans h

/-- Hypothesis (2) for one exact term: a line that contains the term contains every sub-key. -/
theorem C08_exact_narrowing (term line : Str) (k' : Str) (hk : k' ∈ subkeys term)
    (h : term <:+: line) : k' <:+: line :=
  (subkeys_infix term k' hk).trans h

/-- **The merger cache is transparent.** In any history of requests in which two requests of one
    revision with the same item count carry the same snapshot (within a revision the list only
    grows; `C13_same_count_same_items`), every request — final or not — is answered with the result
    of scanning its own snapshot with its own pattern and sort flag, never with a merger cached
    for other input, another item count, another sort order or another query. -/
theorem C08_merger_cache_transparent {R : Type} (scan : SReq → R) (hext : ScanExt scan) (cacheable : R → Bool)
    (sort0 : Bool) (rev0 : Nat) (rs : List SReq) (hpw : rs.Pairwise Valid) :
    ∀ x ∈ servePairs scan cacheable { sort := sort0, rev := rev0 } rs, x.2 = scan x.1 :=
  servePairs_transparent scan hext cacheable rs _ nofun hpw

/-- **At rest the list is the search of the current settings over everything loaded.** For every
    execution — any interleaving of items arriving, the input ending, the user editing the query
    or toggling sort / exclusions / nth, reloads, the coordinator handling its events, the matcher
    picking up, abandoning or completing scans, results being handed to the terminal — if it ends
    in a state where input has ended and nothing is pending anywhere, the result on display is
    the one computed for the query now in the prompt over all the items loaded, with the final
    flag set. No order of overwriting events, cancelled scans or late results leaves an older
    query's results on the screen. (What a scan computes for a request is the subject of
    `C08_merger_cache_transparent`, `C08_chunk_cache_transparent` and the matching theorems of
    C01–C04.) -/
theorem C08_quiescent_shows_current (ls : List Coordinator.Label) (t : Coordinator.Co)
    (hr : Coordinator.run {} ls = some t) (hq : Coordinator.Quiescent t) :
    t.shown = some ⟨t.q, t.n, true⟩ :=
  Coordinator.quiescent_shows_current ls t hr hq

/-- **… and the rest state is reached.** Once input has ended, a state that is not at rest always
    has a transition of fzf itself enabled, and each such transition uses up pending work: while
    the user and the reader are silent at most `measure s` ≤ 14 of them happen. -/
theorem C08_converges (s : Coordinator.Co) (hread : s.reading = false) :
    (¬ Coordinator.Quiescent s → ∃ l, Coordinator.own l = true ∧ (Coordinator.step s l).isSome = true) ∧
    (∀ l t, Coordinator.own l = true → Coordinator.step s l = some t → Coordinator.measure t < Coordinator.measure s) :=
  ⟨Coordinator.not_stuck s hread, fun _ _ => Coordinator.own_step_decreases⟩

/-- **The rest state is reached, and it shows the current query.** From every state the system can
    be in once input has ended — whatever events, requests, scans and late results are still under
    way — fzf's own steps alone (the world staying silent) lead, in at most `measure s` ≤ 14 steps
    whatever order they are taken in, to a state with nothing pending, the same query and the same
    items; and by `C08_quiescent_shows_current` that state shows the result for exactly those. -/
theorem C08_reaches_rest (s : Coordinator.Co) (hread : s.reading = false) :
    (∃ ls t, (∀ l ∈ ls, Coordinator.own l = true) ∧ Coordinator.run s ls = some t ∧ Coordinator.Quiescent t ∧
        t.q = s.q ∧ t.n = s.n) ∧
    (∀ ls t, (∀ l ∈ ls, Coordinator.own l = true) → Coordinator.run s ls = some t → ls.length ≤ Coordinator.measure s) :=
  ⟨Coordinator.own_steps_reach_rest s hread, fun ls t ho hr =>
    Nat.le_trans (Nat.le_add_right _ _) (Coordinator.own_run_bounded ls s t ho hr)⟩

/- Non-vacuity: an execution with an edit racing a scan; the stale result is shown for a while,
   the rest state shows the current one. -/
example :
    let ls : List Coordinator.Label := [.push, .push, .coordRead, .take, .eof, .edit 7, .finish, .coordFin,
      .coordSearch, .coordRead, .take, .finish, .coordFin]
    (Coordinator.run {} ls).map (fun t => (t.shown, decide (t.reading = false ∧ t.evRead = false ∧ t.evSearch = false ∧
        t.evFin = none ∧ t.box = none ∧ t.running = none))) = some (some ⟨7, 2, true⟩, true) ∧
    (Coordinator.run {} (ls.take 8)).map (·.shown) = some (some ⟨0, 2, false⟩) := ⟨rfl, rfl⟩

example : (take (postAll ({} : Box Nat) [(true, 1), (false, 2), (true, 3), (false, 4)])).1.map (·.body) = some 4 := rfl

example : (take (postAll ({} : Box Nat) [(false, 1), (true, 2)])).1.map (·.body) = some 2 := rfl

/-- The history on which the pinned snapshot answered with a stale merger (finding F32: after a
    reload the cache was still held to be for the old input's 500 items; a request over 100 items
    filled it, the next one over 500 items was a hit) is answered correctly. -/
example :
    let scan : SReq → Nat := fun r => r.snap
    let rs : List SReq := [⟨0, 1, 500, false, true, 0⟩, ⟨0, 2, 100, false, true, 1⟩, ⟨0, 3, 500, false, true, 1⟩]
    serveAll scan (fun _ => true) { sort := true, rev := 0 } rs = [1, 2, 3] := rfl

/-- A hit does happen (the theorem is not about a cache that never answers): the same request
    twice is scanned once. -/
example :
    let rs : List SReq := [⟨0, 1, 500, false, true, 0⟩, ⟨0, 1, 500, false, true, 0⟩]
    ((serve (fun r => r.snap) (fun _ => true) ({ sort := true, rev := 0 } : LS Nat) rs[0]).1.cache.length) = 1 := rfl

end Fzf.Props.C08
