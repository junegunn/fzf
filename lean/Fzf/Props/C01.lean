import Fzf.Lemmas.ParseRender
import Fzf.Lemmas.FilterOnce
import Fzf.Lemmas.TermDecides
/-
C01 — filtering is exact: the lines shown are the lines satisfying the query.
-/
namespace Fzf.Props.C01
open Fzf Fzf.Algo Fzf.Pattern

/-- `MatchItem` on an extended pattern computes the specification's AND-of-OR-with-negation over a
    decision function for single terms (`hits`): AND over the groups, OR over their terms, `!` negating. -/
theorem C01_extended_is_and_of_or (cfg : Cfg) (pat : Pattern) (toks : List Tok) (withPos : Bool) (cap : Nat)
    (hext : pat.extended = true)
    (hrun : ∀ t, ∃ r, runTermOn cfg pat toks withPos cap t = .ok r) :
    ∃ r, matchItem cfg pat toks withPos cap = .ok r ∧
      r.isSome = pat.termSets.all (fun ts => ts.any fun t => t.inv != hits (runTermOn cfg pat toks withPos cap) t) := by
  obtain ⟨⟨offs, total, allPos⟩, hr, hlen⟩ := setsMatch_length (runTermOn cfg pat toks withPos cap) hrun withPos pat.termSets
  have hiff : offs.length = pat.termSets.length ↔
      pat.termSets.all (fun ts => ts.any fun t => t.inv != hits (runTermOn cfg pat toks withPos cap) t) = true := by
    rw [hlen, List.countP_eq_length, List.all_eq_true]
  rw [matchItem, if_pos hext, extendedMatch, hr]
  by_cases hlen : offs.length = pat.termSets.length
  · exact ⟨some _, if_pos (beq_iff_eq.mpr hlen), (hiff.mp hlen).symm⟩
  -- the answer `none`: `Bool.not_eq_true` turns `¬ (all … = true)`, which `hiff` gives, into `all … = false`
  · exact ⟨none, if_neg (mt beq_iff_eq.mp hlen), (Bool.not_eq_true _ ▸ mt hiff.mpr hlen).symm⟩

/-- An extended-mode pattern matches a line exactly when every space-separated group has a term
    that matches with the right polarity: groups are AND-ed, `|` alternatives OR-ed, `!` negates.
    Holds for every pattern, every line (token list) and every behaviour of the match
    functions, as long as they return (C02: they do not crash). -/
theorem C01_extended_iff (cfg : Cfg) (pat : Pattern) (toks : List Tok) (withPos : Bool) (cap : Nat)
    (hext : pat.extended = true)
    (hrun : ∀ t, ∃ r, runTermOn cfg pat toks withPos cap t = .ok r) :
    ∃ r, matchItem cfg pat toks withPos cap = .ok r ∧
      (r.isSome = true ↔ ∀ ts ∈ pat.termSets, ∃ t ∈ ts, t.inv ≠ hits (runTermOn cfg pat toks withPos cap) t) := by
  obtain ⟨r, hr, hb⟩ := C01_extended_is_and_of_or cfg pat toks withPos cap hext hrun
  refine ⟨r, hr, ?_⟩
  rw [hb]
  simp only [List.all_eq_true, List.any_eq_true, bne_iff_ne]

/-- **The documented search syntax is read as documented.** For every well-formed query — any
    number of space-separated groups, each any number of `|`-separated terms of any kind (fuzzy,
    `'exact`, `'boundary'`, `^prefix`, `suffix$`, `^equal$`), negated or not, whose texts are
    non-empty, tab-free, do not begin with `! ' ^`, do not end with `$ ' \` and are not `|`; spaces
    inside a text written as `\ ` — in fuzzy and in `--exact` mode, under every case mode, with or
    without `--literal`: `parseTerms` applied to the concrete syntax returns exactly the documented
    terms (`Query.compile`: kind, polarity, smart-case decided per term on its own text, accent
    normalisation unless the term itself carries an accent, the escaped spaces restored), group
    by group, in order. `CfgOk`: lower-casing never produces a syntax character from a non-ASCII
    rune (checked on Go's table in every run) and normalisation leaves the syntax characters
    alone (`C02_normalize_ascii`). -/
theorem C01_documented_syntax (cfg : Cfg) (hc : Query.CfgOk cfg) (fuzzy : Bool) (cm : CaseMode) (normalize : Bool)
    (q : Query.Query) (hw : Query.wf q = true) :
    parseTerms cfg fuzzy cm normalize (Query.render fuzzy q) = q.map (·.map (Query.compile cfg cm normalize)) :=
  Query.parse_render cfg hc fuzzy cm normalize q hw

/-- The hypothesis holds of every configuration whose normalisation is `normalizeRune` over any
    table and whose lower-casing is ASCII-only or maps non-ASCII runes to non-syntax runes. -/
theorem C01_cfgOk_of_tables (U : Unicode) (sch : Scheme) (tbl : List (Nat × Nat))
    (hl : ∀ c, c > 127 → Query.isSyn (U.lower c) = false) :
    Query.CfgOk ⟨U, sch, normalizeRune tbl⟩ :=
  ⟨hl, fun c hs => normalizeRune_of_lt (by have := (Query.isSyn_iff c).mp hs; omega)⟩

/-- **`fzf --filter` prints exactly the matching lines.** For every list of input records, every
    query and every option set (sorting, --tac, --tail, --nth / --with-nth, --header-lines, criteria):
    a numbered record is in the output if and only if it is an item (one of the last `--tail`
    items) on which the pattern matches, printed as the item's original record — no matching
    line is dropped, no other line is shown. What "the pattern matches" means for an extended
    query is `C01_extended_iff`; how the query is read is `C01_documented_syntax`. (For the empty
    pattern every item is printed: `Filter.runIdx`, first branch.) -/
theorem C01_filter_exact (o : Filter.Opts) (slabCap : Nat) (query : Str) (lines : List Str) (out : List (Nat × Str))
    (h : Filter.runIdx o slabCap query lines = some out)
    (hpat : ¬ ((buildPattern o.cfg o.fuzzy o.v2 o.extended o.caseMode o.normalize (Filter.dirAndPos o.criteria).1 false query).isEmpty = true ∧
              (!(!o.sort && !o.tac)) = true)) :
    ∀ p : Nat × Str, p ∈ out ↔ ∃ it ∈ Filter.itemsOf o lines, p = (it.index, it.orig) ∧
      ∃ m, matchItem o.cfg (buildPattern o.cfg o.fuzzy o.v2 o.extended o.caseMode o.normalize (Filter.dirAndPos o.criteria).1 false query)
        (Filter.inputTokens o it) (if (!o.sort && !o.tac) then false else (Filter.dirAndPos o.criteria).2) slabCap = .ok (some m) := by
  intro p
  rw [Filter.runIdx_mem h]
  -- for a pattern that is not "empty, and the output sorted", `shown` says that the pattern matches
  constructor
  · rintro ⟨it, hit, hs, e⟩
    exact ⟨it, hit, e, (Filter.shown_iff o slabCap query it hpat).mp hs⟩
  · rintro ⟨it, hit, e, hm⟩
    exact ⟨it, hit, (Filter.shown_iff o slabCap query it hpat).mpr hm, e⟩

/-- **Exact terms are decided exactly** (`'t`, every term under --exact, every negated term `!t`):
    in fzf's three schemes, over any list of searched fields (the whole line, or the fields --nth
    selects), the term is reported to match if and only if its text occurs, character by
    character after case folding / normalisation, in one of the fields — and the evaluation
    always returns. No matching line is dropped (the ASCII pre-filter, the restart after a
    partial match and the loop bound lose nothing) and no other line is shown. -/
theorem C01_exact_term_decides (cfg : Cfg) (hs : RealScheme cfg) (hnorm : ∀ c, c < 128 → cfg.norm c = c)
    (v2 : Bool) (cs norm fwd : Bool) (p : Array Nat) (hm : 0 < p.size) (wp : Bool) (cap : Nat) (toks : List Tok)
    (htok : ∀ t ∈ toks, t.isBytes = true → ∀ c ∈ t.text.toList, c < 128) :
    ∃ x, iter cfg v2 .exact toks cs norm fwd p wp cap = .ok x ∧
      (x.isSome = true ↔ ∃ t ∈ toks, OccursIn cfg cs norm p t) :=
  exact_term_decides cfg hs hnorm v2 cs norm fwd p hm wp cap toks htok

/-- **Anchored terms are decided exactly** over any list of searched fields: `^t` is reported iff
    some field has `t` right after its leading whitespace, `t$` iff some field has it right before
    its trailing whitespace, `^t$` iff some field, trimmed, is `t` (whitespace is kept where the
    term itself starts / ends with whitespace) — and the evaluation always returns. -/
theorem C01_anchored_terms_decide (cfg : Cfg) (v2 : Bool) (cs norm fwd : Bool) (p : Array Nat) (hm : 0 < p.size) (wp : Bool) (cap : Nat)
    (toks : List Tok) :
    (∃ x, iter cfg v2 .prefix toks cs norm fwd p wp cap = .ok x ∧ (x.isSome = true ↔ ∃ t ∈ toks,
      OccAt (fun c pc => foldTL cfg cs norm c == pc) t.text p (if !cfg.U.isSpace (p.getD 0 0) then leadingWhitespaces cfg t.text else 0))) ∧
    (∃ x, iter cfg v2 .suffix toks cs norm fwd p wp cap = .ok x ∧ (x.isSome = true ↔ ∃ t ∈ toks,
      p.size ≤ suffixEnd cfg t.text p ∧ OccAt (fun c pc => foldTL cfg cs norm c == pc) t.text p (suffixEnd cfg t.text p - p.size))) ∧
    (∃ x, iter cfg v2 .equal toks cs norm fwd p wp cap = .ok x ∧ (x.isSome = true ↔ ∃ t ∈ toks,
      ((t.text.size : Int) - (if !cfg.U.isSpace (p.getD 0 0) then leadingWhitespaces cfg t.text else 0 : Nat) -
          (if !cfg.U.isSpace (p.getD (p.size - 1) 0) then trailingWhitespaces cfg t.text else 0 : Nat) = p.size ∧
        OccAt (equalOk cfg cs norm) t.text p (if !cfg.U.isSpace (p.getD 0 0) then leadingWhitespaces cfg t.text else 0)))) :=
  anchored_terms_decide cfg v2 cs norm fwd p hm wp cap toks

/- The documented syntax, on concrete queries (kernel-evaluated; `U` = ASCII-only oracle). -/
def asciiU : Unicode := ⟨fun c => if 65 ≤ c ∧ c ≤ 90 then c + 32 else c, fun c => c == 32 || (9 ≤ c && c ≤ 13), fun _ => 1⟩

def cfgA : Cfg := ⟨asciiU, schemeDefault, id⟩

-- "foo 'bar | ^baz !qux$"  →  [fuzzy foo] ∧ [exact bar ∨ prefix baz] ∧ [¬ suffix qux]
example : parseTerms cfgA true .smart false
    [102,111,111,32,39,98,97,114,32,124,32,94,98,97,122,32,33,113,117,120,36] =
    [[⟨.fuzzy, false, [102,111,111], false, false⟩],
     [⟨.exact, false, [98,97,114], false, false⟩, ⟨.prefix, false, [98,97,122], false, false⟩],
     [⟨.suffix, true, [113,117,120], false, false⟩]] := by decide

-- smart-case is decided per term: "Foo bar" → Foo case-sensitive, bar not
example : (parseTerms cfgA true .smart false [70,111,111,32,98,97,114]).map (·.map (·.cs)) = [[true], [false]] := by decide

-- rendering a query and parsing it back gives the documented terms
example : parseTerms cfgA true .smart false
    (Query.render true [[⟨.boundary, false, [97, 32, 98]⟩], [⟨.fuzzy, true, [99]⟩, ⟨.equal, false, [100]⟩]]) =
    [[⟨.boundary, false, [97, 32, 98], false, false⟩],
     [⟨.fuzzy, true, [99], false, false⟩, ⟨.equal, false, [100], false, false⟩]] := by decide

-- the hypotheses of C01_documented_syntax are satisfiable: the ASCII-only oracle is `CfgOk`, and a query with
-- an escaped space, a negated fuzzy term and an anchored term is well-formed
example : Query.CfgOk cfgA := by
  refine ⟨fun c hc => Bool.eq_false_iff.2 fun h => ?_, fun _ _ => rfl⟩
  have := (Query.isSyn_iff _).mp h
  rw [show cfgA.U.lower c = c from if_neg (by omega)] at this
  omega

example : Query.wf [[⟨.boundary, false, [97, 32, 98]⟩], [⟨.fuzzy, true, [99]⟩, ⟨.equal, false, [100]⟩]] = true := by decide

end Fzf.Props.C01
