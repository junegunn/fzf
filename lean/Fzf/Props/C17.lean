import Fzf.Model.Bind
import Fzf.Model.Args
/-
C17 — any command line is either accepted as documented or rejected cleanly.
(`mask`, `parseLayer`, `parse` are total functions: rejection is the value `none`, never a crash;
the Go counterpart of that claim is checked by the correspondence run.)
-/
namespace Fzf.Props.C17
open Fzf Fzf.Bind Fzf.Args

theorem replaceAll_length (old new : Str) (h : old.length = new.length) (s : Str) (fuel : Nat) :
    (replaceAll old new s fuel).length = s.length := by
  fun_induction replaceAll old new s fuel with
  | case1 | case2 => rfl
  | case3 fuel c tl hp ih =>
    -- `new` stands where the prefix `old` stood
    rw [if_pos hp, List.length_append, ih, ← h, ← List.length_append,
      List.prefix_iff_eq_append.1 (List.isPrefixOf_iff_prefix.1 hp.1)]
  | case4 fuel c tl hp ih => rw [if_neg hp, List.length_cons, ih, List.length_cons]

theorem findClose_go_lt (ce i : Nat) (r : Str) (q : Nat) (h : findClose.go ce i r = some q) :
    q < i + r.length := by
  revert h
  fun_induction findClose.go ce i r with
  | case1 => nofun  -- end of the string
  | case2 i c tl _ => rintro ⟨⟩; exact Nat.lt_add_of_pos_right (Nat.succ_pos _)  -- the closer is found
  | case3 i c tl _ ih => exact fun h => Nat.succ_add_eq_add_succ i tl.length ▸ ih h

theorem findClose_lt (ce : Nat) (s : Str) (p : Nat) (h : findClose ce s = some p) : p < s.length := by
  cases s with
  | nil => nomatch h
  | cons c tl => exact Nat.lt_of_lt_of_eq (findClose_go_lt ce 1 tl p h) (Nat.add_comm 1 tl.length)

theorem length_take_append {s x : Str} {e : Nat} (h : x.length = (s.drop e).length) :
    (s.take e ++ x).length = s.length := by
  rw [List.length_append, h, ← List.length_append, List.take_append_drop]

theorem maskLoop_length (names : List Str) (s : Str) (fuel : Nat) : (maskLoop names s fuel).length = s.length := by
  -- every branch that changes anything keeps `head` and puts something as long as `rest` after it
  fun_induction maskLoop names s fuel with
  | case1 | case3 => rfl
  | case2 _ _ h => rw [List.isEmpty_iff.1 h]
  -- nothing after the action name
  | case4 s _ _ _ e _ head rest hr => exact congrArg List.length (List.take_of_length_le (List.drop_eq_nil_iff.1 hr))
  -- `name:` — all of `rest` is the argument
  | case5 => exact length_take_append List.length_replicate
  -- no delimiter after the name
  | case6 _ _ _ _ _ _ _ _ _ _ _ _ _ ih => exact length_take_append ih
  -- the delimiter is never closed
  | case7 => exact length_take_append rfl
  -- delimited argument, closed at `p`: blanked up to `p`, the loop goes on behind it
  | case8 s _ _ _ e _ head rest c tl hr _ ce _ p hp ih =>
    rw [List.append_assoc]
    refine length_take_append (?_ : _ = rest.length)
    rw [List.length_append, ih, spaces, List.length_replicate, List.length_drop]
    exact Nat.add_sub_cancel' (findClose_lt ce rest p hp)

/-- Masking the action arguments preserves the length of the bind string — the invariant the
    offset-based splitting of the *original* string relies on — for every string and every set
    of argument-taking action names. -/
theorem C17_mask_length (names : List Str) (s : Str) : (mask names s).length = s.length := by
  -- `List.length_cons` lets `simp` see that each of the five literal pairs replaces like length by like
  simp only [mask, replaceAll_length, maskLoop_length, List.length_cons]

/-- Later occurrences override earlier ones: a flag appended to an argument list that parses
    sets its field, whatever came before (in the same layer). -/
theorem C17_later_overrides (d d1 : Dump) (args : List String) (x f v : String)
    (hpre : args.foldl step (some (d, none)) = some (d1, none))
    (hx : splitArg x = (x, none)) (ht : table.find? (·.1 == x) = some (x, .flag f v)) :
    (args ++ [x]).foldl step (some (d, none)) = some (d1.set f v, none) ∧ (d1.set f v).get f = v := by
  constructor
  · rw [List.foldl_append, hpre]
    simp [step, hx, ht]
  · simp [Dump.set, Dump.get]

/-- Command-line arguments take precedence over $FZF_DEFAULT_OPTS: the command line is parsed
    as a later layer on top of the fields the environment produced. -/
theorem C17_argv_over_env (env args : List String) (de : Dump) (h : parseLayer defaults env = some de) :
    parse env args = parseLayer de args := by
  simp [parse, h]

/-- A valued option given without `=` consumes exactly the next argument as its value, also when
    that argument looks like an option. -/
theorem C17_value_is_next_argument (d : Dump) (x f v : String)
    (hx : splitArg x = (x, none)) (ht : table.find? (·.1 == x) = some (x, .str f)) :
    [x, v].foldl step (some (d, none)) = some (d.set f v, none) := by
  simp [step, hx, ht, applyValue]

example : table.find? (·.1 == "--tac") = some ("--tac", .flag "tac" "1") := by decide

example : (mask Generated.argActions [97, 58, 101, 120, 101, 99, 117, 116, 101, 40, 120, 43, 121, 41, 44, 98, 58, 117, 112]) =
    [97, 58, 101, 120, 101, 99, 117, 116, 101, 32, 32, 32, 32, 32, 44, 98, 58, 117, 112] := by decide

end Fzf.Props.C17
