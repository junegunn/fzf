import Fzf.Lemmas.Expand
/-
C12 — placeholders expand to shell words that evaluate back to the original text.
-/
namespace Fzf.Props.C12
open Fzf Fzf.Quote Fzf.ShEval

/-- Whatever the text contains — quotes, blanks, newlines, `$`, backticks, globs, backslashes —
    the quoted form evaluates back to exactly one word, the text itself; nothing is left for the
    shell to interpret. -/
theorem C12_quote_roundtrip (s : Str) : words (quoteEntry s) = some [s] :=
  (clean_quote s).words

example : words (quoteEntry [36, 40, 114, 109, 41, 39, 59, 10, 96]) = some [[36, 40, 114, 109, 41, 39, 59, 10, 96]] := rfl

example : words [36, 40, 114, 109, 41] = none := rfl   -- unquoted data would be interpreted

/-- `{+}`: the quoted items joined by blanks evaluate to one word per item, in order. -/
theorem C12_join_roundtrip (xs : List Str) : words (joinWith 32 (xs.map quoteEntry)) = some xs := by
  have := (clean_items id xs).words
  rwa [List.map_id] at this

/-- A quoted text placed between other words of a command line contributes exactly itself. -/
theorem C12_quote_in_context (s rest : Str) (ws : List Str) :
    eval (quoteEntry s ++ 32 :: rest) false ws none = eval rest false (s :: ws) none :=
  (clean_quote s).beforeBlank rest ws

/-- fish: inside single quotes only `\'` and `\\` are escapes, and the fish escaper produces
    exactly those (fish is not installed here: its quoting rule is modelled, not validated). -/
theorem C12_fish_roundtrip (s : Str) : fishQuoted (quoteEntryFish s) = some s :=
  fishQuoted_go_escFish s []

/-- The tmux re-launch quotes every argument with the same escaper. -/
theorem C12_tmux_args_roundtrip (args : List Str) : words (joinWith 32 (args.map quoteEntry)) = some args :=
  C12_join_roundtrip args

/-- **A whole expanded template evaluates to what its placeholders stand for.** For a command
    template of blank-separated parts — `{}`, `{+}`, `{q}` and literal words of plain characters —
    and any query, current item and selection (any bytes at all): the POSIX word splitting of
    `replacePlaceholder`'s result yields, in order, the literal words, the current item for `{}`,
    every selected item in selection order for `{+}` (one word per item) and the query for `{q}`.
    Nothing is left for the shell to interpret; no item is split, merged or dropped. -/
theorem C12_template_evaluates (cx : Placeholder.Ctx) (ps : List Placeholder.Part) (hok : ∀ p ∈ ps, p.ok) :
    words (Placeholder.expand cx (ps.map Placeholder.Part.text)) = some (ps.flatMap (Placeholder.Part.denote cx)) := by
  rw [Placeholder.expand, List.map_map]
  exact (clean_joinWith ps fun p hp => Placeholder.expandPart_clean cx p (hok p hp)).words

/-- `echo {} -- {+} {q}` with a current item `a b`, the selection `$(x)`, `'`, and the query `;rm`:
    five words of data after `echo`, as they are. -/
example :
    let cx : Placeholder.Ctx :=
      { query := [59, 114, 109], current := some ([97, 32, 98], 0),
        selected := [([36, 40, 120, 41], 3), ([39], 1)], delim := .awk, isSpace := fun c => c == 32 }
    words (Placeholder.expand cx [[101, 99, 104, 111], [123, 125], [45, 45], [123, 43, 125], [123, 113, 125]])
      = some [[101, 99, 104, 111], [97, 32, 98], [45, 45], [36, 40, 120, 41], [39], [59, 114, 109]] := by decide

end Fzf.Props.C12
