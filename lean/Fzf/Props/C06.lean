import Fzf.Lemmas.Reader
import Fzf.Lemmas.ChunkTail
/-
C06 — every input record becomes exactly one item, in order, unaltered.
-/
namespace Fzf.Props.C06
open Fzf Fzf.Reader

/-- However the operating system cuts the stream into `read()` results (any number of reads,
    any sizes, cuts on or around delimiters, records longer than any buffer), the reader hands
    over exactly the records of the stream: `feed` = `splitRecords` of the concatenated data. -/
theorem C06_feed_split (delim : Nat) (reads : List Read) (h : OSReads reads) :
    feed delim reads = splitRecords delim (reads.map (·.data)).flatten :=
  feed_fold_spec delim reads h {} rfl

/-- Consequently the way the stream is delivered is unobservable. -/
theorem C06_chunking_irrelevant (delim : Nat) (reads₁ reads₂ : List Read) (h₁ : OSReads reads₁) (h₂ : OSReads reads₂)
    (hsame : (reads₁.map (·.data)).flatten = (reads₂.map (·.data)).flatten) :
    feed delim reads₁ = feed delim reads₂ := by
  rw [C06_feed_split _ _ h₁, C06_feed_split _ _ h₂, hsame]

/-- What "the records of the stream" means: a stream written as records each followed by the
    delimiter, plus an optional unterminated last record, is read back as exactly those records —
    in order, unaltered, empty records included; the last one only if it is not empty. -/
theorem C06_records_exact (delim : Nat) (recs : List Str) (hfree : ∀ r ∈ recs, delim ∉ r) (last : Str) (hl : delim ∉ last) :
    splitRecords delim (recs.flatMap (· ++ [delim]) ++ last) = recs ++ (if last.isEmpty then [] else [last]) := by
  unfold splitRecords
  induction recs with
  | nil => exact splitRecords_go_last delim last hl []
  | cons r rs ih =>
    rw [List.flatMap_cons, List.append_assoc, List.append_assoc]
    exact (splitRecords_go_record delim r (hfree r List.mem_cons_self) [] _).trans
      (congrArg (r :: ·) (ih fun x hx => hfree x (List.mem_cons_of_mem _ hx)))

/-- The hypothesis `OSReads` is necessary: a reader that returns data *together with* io.EOF makes
    `feed` duplicate the unterminated tail ("a\nb" ⇒ a, bb) — finding F4, outside what os.File does. -/
theorem C06_data_with_eof_witness :
    feed 10 [⟨[97, 10, 98], .eof⟩] = [[97], [98, 98]] ∧ splitRecords 10 [97, 10, 98] = [[97], [98]] := by decide

/-- **--tail N: exactly the last N records remain searchable.** After any history of pushes and
    snapshots that trim to `tail` (whatever the chunk size, wherever the trims fall inside or
    across chunks), the next snapshot shows exactly the last `tail` items pushed since the start
    of the stream, in order and unaltered — all of them while fewer than `tail` were pushed. The
    items keep the identity (number) they were pushed with. -/
theorem C06_tail_keeps_last_n (cz tail : Nat) (ht : 0 < tail) (ops : List ChunkHeap.Op) (hs : ChunkHeap.snapsWith tail ops) :
    let cl := ops.foldl (ChunkHeap.step cz) ⟨[], []⟩
    ChunkHeap.contents (ChunkHeap.snapshot tail cl).1 (ChunkHeap.snapshot tail cl).2 = lastN tail (ChunkHeap.pushedBy ops) := by
  intro cl
  rw [ChunkHeap.snapshot_shows_lastN tail cl (ChunkHeap.steps_wf cz ops ChunkHeap.wf_empty) ht]
  exact ChunkHeap.steps_lastN cz tail ht ops hs ⟨[], []⟩ ChunkHeap.wf_empty

/-- Items numbered 0..6 pushed into chunks of 3 with --tail 2 and snapshots in between: the last
    snapshot shows items 5 and 6 under their original numbers. -/
example :
    let ops : List ChunkHeap.Op := [.push 0, .push 1, .push 2, .snap 2, .push 3, .push 4, .snap 2, .push 5, .push 6]
    let cl := ops.foldl (ChunkHeap.step 3) ⟨[], []⟩
    ChunkHeap.contents (ChunkHeap.snapshot 2 cl).1 (ChunkHeap.snapshot 2 cl).2 = [5, 6] := by decide

/- Non-vacuity: a stream cut in the middle of a record and on a delimiter. -/
example : OSReads [⟨[97], .nil⟩, ⟨[98, 10], .nil⟩, ⟨[10, 99], .nil⟩, ⟨[], .eof⟩] := by simp [OSReads]

example : feed 10 [⟨[97], .nil⟩, ⟨[98, 10], .nil⟩, ⟨[10, 99], .nil⟩, ⟨[], .eof⟩] = [[97, 98], [], [99]] := by decide

end Fzf.Props.C06
