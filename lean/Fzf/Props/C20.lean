import Fzf.Lemmas.Preview
/-
C20 — the preview always catches up with the focused line. Requests are numbered in the order the
render loop makes them; the last request is the one for the line now under the cursor with the
current query and selection.
-/
namespace Fzf.Props.C20
open Fzf Fzf.Preview

/-- **At quiescence the last command run is the one for the latest request**, along every
    interleaving of refreshes, the previewer, the watcher and commands ending or being killed;
    and the log of commands run never goes back to an older request. -/
theorem C20_latest_request_runs_last (ends : Nat → Bool) (trace : List Label) :
    let s := run ends {} trace
    s.started.Pairwise (· < ·) ∧
    (s.quit = false → quiescent s = true → s.enq > 0 → s.started.getLast? = some s.enq) := by
  have inv := reachable_inv ends trace
  exact ⟨inv.started_sorted, fun hq hqu => inv.caught_up hq (quiescent_iff.1 hqu).1⟩

/-- **And its output is what is shown**: at quiescence the display request last handed to the
    render loop carries the complete output of the command of the latest request, under the
    current version. -/
theorem C20_shown_is_latest (ends : Nat → Bool) (trace : List Label) :
    let s := run ends {} trace
    s.quit = false → quiescent s = true → s.enq > 0 → s.shown = some (s.version, s.enq) := by
  intro s hq hqu
  exact (reachable_inv ends trace).shown_latest hq (quiescent_iff.1 hqu).2 (quiescent_iff.1 hqu).1

/-- The previewer runs one command at a time and numbers them consecutively: the version of the
    running command is the number of commands started. -/
theorem C20_one_at_a_time (ends : Nat → Bool) (trace : List Label) :
    let s := run ends {} trace
    s.version = s.started.length ∧ ∀ p, s.run = some p → s.started.getLast? = some p.req ∧ p.version = s.version :=
  have inv := reachable_inv ends trace
  ⟨inv.version_eq, inv.run_last⟩

/-- **Superseded commands are cancelled — partial.** A refresh that arrives while the watcher of
    the running command is receiving marks that command to be killed. (What is missing for the
    full claim is the case below.) -/
theorem C20_superseded_killed_partial (ends : Nat → Bool) (s s' : S) (p : Running)
    (hr : s.run = some p) (hw : p.watcher = true) (hs : step ends s .refresh = some s') :
    ∃ p', s'.run = some p' ∧ p'.killed = true ∧ p'.req = p.req := by
  simp only [step] at hs
  by_cases hq : s.quit = true
  · rw [if_pos hq] at hs; cases hs
  · rw [if_neg hq] at hs; cases hs
    exact ⟨{ p with killed := true }, by simp [hr, hw], rfl, rfl⟩

/-- **Superseded commands can always be cancelled.** In every reachable state in which a command
    is running while a newer request waits in the box, the watcher (once it is receiving) finds
    the newer request and marks the command to be killed — whether or not the cancel token sent
    with that request reached it. -/
theorem C20_superseded_killed (ends : Nat → Bool) (s : S) (p : Running)
    (hr : s.run = some p) (hb : s.box.isSome = true) (hk : p.killed = false) :
    ∃ s', run ends s [.ready, .poll] = s' ∧ ∃ p', s'.run = some p' ∧ p'.killed = true ∧ p'.req = p.req ∧ s'.box = s.box := by
  have hp := step_poll ends (s := { s with run := some { p with watcher := true } }) rfl rfl hb hk
  refine ⟨_, rfl, { p with watcher := true, killed := true }, ?_, rfl, rfl, ?_⟩ <;>
    simp only [run, List.foldl, step_ready_getD ends hr, hp, Option.getD_some]

/-- **Why the watcher has to look into the box** (finding F20, repaired in /repo): the cancel
    token is sent without blocking on an unbuffered channel, so a refresh that arrives after the
    previewer has dequeued a request but before the watcher goroutine of its command is receiving
    is lost. Without the `poll` transition a command that never ends then stays alive and the
    newer request is never served, whatever the previewer, the watcher and the command do. -/
theorem C20_lost_cancel_witness (ends : Nat → Bool) (h1 : ends 1 = false) (later : List Label)
    (hl : ∀ l ∈ later, l ≠ .refresh ∧ l ≠ .exit ∧ l ≠ .poll) :
    let s0 := run ends {} [.refresh, .take, .refresh, .ready]
    run ends s0 later = s0 ∧ s0.box = some 2 ∧ (s0.run.map (·.req)) = some 1 ∧ (s0.run.map (·.killed)) = some false := by
  intro s0
  exact ⟨run_stuck ends s0 later fun l hl' =>
    step_stuck ends (p := { req := 1, version := 1, watcher := true }) rfl rfl rfl h1 (hl l hl'), rfl, rfl, rfl⟩

/-! Non-vacuity: a history that reaches quiescence with three requests, the middle one skipped. -/
example :
    let s := run (fun _ => true) {} [.refresh, .take, .ready, .refresh, .refresh, .die, .take, .ready, .finish]
    quiescent s = true ∧ s.enq = 3 ∧ s.started = [1, 3] ∧ s.shown = some (2, 3) := by decide

end Fzf.Props.C20
