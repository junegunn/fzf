import Fzf.Model.Http
/-
C16 — the --listen endpoint is robust and enforces its access rules.
(`handle` is total by construction: every chunk sequence yields one of the four answer classes of
`Resp`; only `Resp.post` carries text for the action parser.)
-/
namespace Fzf.Props.C16
open Fzf Fzf.Http

/-- A rejection decided while scanning (bad method, bad or missing content length) is final:
    no later header or body can turn it into an acceptance. -/
theorem C16_reject_is_final (serverKey : Str) (h : HS) (r : Resp) (hr : h.result = some r) :
    conclude serverKey h = r := by
  simp [conclude, hr]

/-- An accepted POST hands over exactly the first `Content-Length` bytes of the body (minus
    surrounding CR/LF), and only when at least that many bytes arrived. -/
theorem C16_post_body_exact (serverKey : Str) (h : HS) (t : Str) (hn : h.result = none)
    (hp : conclude serverKey h = .post t) :
    h.contentLength ≤ h.body.length ∧ t = trimCRLF (h.body.take h.contentLength) ∧ h.get = none := by
  revert hp
  fun_cases conclude serverKey h
  case case1 r hr => cases hn.symm.trans hr
  -- the last branch: no verdict, key accepted, not a GET, body complete
  case case5 hget hlen => rintro ⟨⟩; exact ⟨Nat.le_of_not_lt hlen, rfl, hget⟩
  all_goals nofun

/-- The content length a request can establish is bounded (oversized requests are rejected). -/
theorem C16_content_length_bounded (h : HS) (t : Str) (hb : h.contentLength ≤ maxContentLength) :
    (onToken h t).contentLength ≤ maxContentLength := by
  -- of the twelve branches of `onToken` only the accepted Content-Length header (case8) sets the field
  fun_cases onToken h t
  case case8 n _ hn => exact Int.toNat_le.2 (Int.not_lt.1 fun hgt => hn (.inr hgt))
  all_goals exact hb

/-- While scanning, a verdict is only ever a rejection. -/
def OnlyBad (h : HS) : Prop := h.result = none ∨ ∃ why, h.result = some (.bad why)

theorem onToken_onlyBad (h : HS) (t : Str) (hn : OnlyBad h) : OnlyBad (onToken h t) := by
  -- a branch either leaves `result` alone or sets it to a `.bad`
  fun_cases onToken h t
  case case1 | case4 | case7 | case9 => exact .inr ⟨_, rfl⟩  -- the four rejections
  all_goals exact hn

theorem scanLoop_invariant {P : HS → Prop} (hP : ∀ h t, P h → P (onToken h t)) (sc : Scanner) (h : HS)
    (fuel : Nat) (h0 : P h) : P (scanLoop sc h fuel) := by
  fun_induction scanLoop sc h fuel with
  | case1 | case2 | case3 => exact h0
  | case4 _ _ _ _ _ _ _ ih => exact ih (hP _ _ h0)  -- a token was scanned

theorem scanLoop_onlyBad {sc : Scanner} {fuel : Nat} : OnlyBad (scanLoop sc {} fuel) :=
  scanLoop_invariant onToken_onlyBad sc {} fuel (.inl rfl)

/-- An acceptance is never a verdict reached while scanning: it is decided by `conclude`. -/
theorem result_none_of_accept {serverKey : Str} {hs : HS} (hob : OnlyBad hs)
    (h : (∃ t, conclude serverKey hs = .post t) ∨ (∃ l o, conclude serverKey hs = .getOk l o)) :
    hs.result = none :=
  hob.resolve_right fun ⟨_, hr⟩ => by
    rw [C16_reject_is_final serverKey hs _ hr] at h
    rcases h with ⟨_, h⟩ | ⟨_, _, h⟩ <;> cases h

theorem apiKey_of_accept {serverKey : Str} {hs : HS} (hk : serverKey ≠ []) (hn : hs.result = none)
    (h : (∃ t, conclude serverKey hs = .post t) ∨ (∃ l o, conclude serverKey hs = .getOk l o)) :
    hs.apiKey = serverKey :=
  -- with a key configured and another one sent, `conclude` answers `.unauthorized`: neither alternative of `h`
  Decidable.byContradiction fun hkey => by simp [conclude, hn, hk, hkey] at h

/-- With a configured key, an answer that accepts actions or reveals state is only given when
    the `x-api-key` header value equals the key exactly — for every byte stream and chunking. -/
theorem C16_key_required (serverKey : Str) (chunks : List Str) (hk : serverKey ≠ [])
    (h : (∃ t, handle serverKey chunks = .post t) ∨ (∃ l o, handle serverKey chunks = .getOk l o)) :
    (scanLoop { chunks := chunks } {} ((chunks.map List.length).sum + 10)).apiKey = serverKey ∨
    (scanLoop { chunks := chunks } {} ((chunks.map List.length).sum + 10)).result.isSome = true :=
  .inl (apiKey_of_accept hk (result_none_of_accept scanLoop_onlyBad h) h)

/-- The request line decides once: after the first token the captured GET query is never
    changed by headers or body. -/
theorem onToken_get_stable (h : HS) (t : Str) (hs : h.section_ ≠ 0) : (onToken h t).get = h.get := by
  fun_cases onToken h t
  case case1 | case2 => contradiction  -- the request line (section 0): the only place `get` is set
  all_goals rfl

/-- **GET never changes state.** For every byte stream and chunking: an answer that hands text to
    the action interpreter is given only when the request line was not a GET (the captured GET
    query is absent) and nothing was rejected while scanning — a GET request line can only be
    answered with the state, with 401 or with 400. -/
theorem C16_get_never_acts (serverKey : Str) (chunks : List Str) (t : Str) (h : handle serverKey chunks = .post t) :
    (scanLoop { chunks := chunks } {} ((chunks.map List.length).sum + 10)).get = none :=
  (C16_post_body_exact serverKey _ t
    (result_none_of_accept scanLoop_onlyBad (.inl ⟨t, h⟩)) h).2.2

example : handle [107] [[71, 69, 84, 32, 47, 32, 72, 84, 84, 80, 13, 10, 13, 10]] = .unauthorized := by decide

end Fzf.Props.C16
