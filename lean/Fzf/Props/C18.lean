import Fzf.Lemmas.History
/-
C18 — the query history file keeps the last N submitted queries in order.
-/
namespace Fzf.Props.C18
open Fzf Fzf.History

/-- The input line a session ends with. -/
def finalInput (file : Str) (m : Nat) (navs : List Nav) : Str :=
  (navs.foldl navStep { h := load file m, input := [] }).input

/-- One session, any initial file contents, any navigation/editing:
    the file is rewritten only by a non-empty submit, and then holds exactly the
    last `m` of (entries found ++ submitted query), whatever was edited on the way. -/
theorem C18_session_file (file : Str) (m : Nat) (navs : List Nav) (submit : Bool) :
    session file m navs submit =
      if submit ∧ finalInput file m navs ≠ []
      then render (lastN m (entries file ++ [finalInput file m navs]))
      else file := by
  unfold session finalInput
  cases submit with
  | false => simp
  | true =>
    have hh := (navs_sim navs _ [] (load_holds file m)).1
    by_cases hq : (navs.foldl navStep { h := load file m, input := [] }).input = []
    · simp [hq, append]
    · simp [append_file hh hq, hq]

/-- Edits made while navigating are never written: the file after a session
    depends only on the entries found and the submitted line. -/
theorem C18_edits_not_persisted (file : Str) (m : Nat) (navs₁ navs₂ : List Nav)
    (h : finalInput file m navs₁ = finalInput file m navs₂) (submit : Bool) :
    session file m navs₁ submit = session file m navs₂ submit := by
  rw [C18_session_file, C18_session_file, h]

/-- A file written by fzf (non-empty, newline-free entries) loads as exactly those entries. -/
theorem C18_load_exact (es : List Str) (hall : ∀ e ∈ es, e ≠ [] ∧ 10 ∉ e) (m : Nat) :
    (load (render es) m).lines.dropLast = es := by
  rw [(load_holds _ m).lines_eq, entries_render es hall]

example : ∀ e ∈ [[97], [98]], e ≠ [] ∧ 10 ∉ e := by decide

/-- A sequence of sessions, each submitting `q` (possibly empty = no submit). -/
def runSessions (m : Nat) (file : Str) : List Str → Str
  | [] => file
  | q :: qs => runSessions m (session file m [.edit q] true) qs

/-- Sessions from a file that holds the last `m` of any well-formed `es`: no bound on `es` is
    needed, since trimming to `m` commutes with appending (`lastN_lastN_append`). -/
theorem runSessions_render (m : Nat) (es qs : List Str)
    (h0 : ∀ e ∈ es, e ≠ [] ∧ 10 ∉ e) (hq : ∀ q ∈ qs, 10 ∉ q) :
    runSessions m (render (lastN m es)) qs = render (lastN m (es ++ qs.filter (· ≠ []))) := by
  induction qs generalizing es with
  | nil => simp [runSessions]
  | cons q qs ih =>
    obtain ⟨hq1, hq'⟩ := List.forall_mem_cons.mp hq
    have hfi : finalInput (render (lastN m es)) m [.edit q] = q := rfl
    rw [runSessions, C18_session_file, hfi]
    by_cases hqe : q = []
    · simp [hqe, ih es h0 hq']
    · have h1 := List.forall_mem_append.mpr ⟨h0, List.forall_mem_singleton.mpr ⟨hqe, hq1⟩⟩
      rw [if_pos ⟨rfl, hqe⟩, entries_render _ (fun e he => h0 e ((lastN_suffix _ _).subset he)),
        lastN_lastN_append, ih (es ++ [q]) h1 hq']
      simp [hqe]

/-- Any number of sessions: starting from a well-formed file holding `es₀`, the file
    ends up holding the last `m` of `es₀ ++ (the non-empty submitted queries)`, oldest
    first (or is untouched when nothing non-empty was ever submitted). -/
theorem C18_file_content (m : Nat) (es₀ : List Str) (qs : List Str)
    (h0 : ∀ e ∈ es₀, e ≠ [] ∧ 10 ∉ e) (hq : ∀ q ∈ qs, 10 ∉ q) (hlen : es₀.length ≤ m) :
    runSessions m (render es₀) qs = render (lastN m (es₀ ++ qs.filter (· ≠ []))) := by
  rw [← runSessions_render m es₀ qs h0 hq, lastN_of_length_le m es₀ hlen]

example : runSessions 2 (render [[97], [98]]) [[99], [], [100]] = render [[99], [100]] := by decide

/-- previous/next never leave the stored range, from any file, after any actions. -/
theorem C18_cursor_in_range (file : Str) (m : Nat) (navs : List Nav) :
    let s := navs.foldl navStep { h := load file m, input := [] }
    s.h.cursor < s.h.lines.length ∧ s.h.lines.length = (entries file).length + 1 ∧
    current s.h ≠ none := by
  intro s
  have hh : Holds (entries file) m s.h := (navs_sim navs _ [] (load_holds file m)).1
  exact ⟨hh.cur, hh.length_lines, by rw [current_eq_view hh.cur]; exact Option.some_ne_none _⟩

/-- Navigation is the slot editor: leaving a slot stores the (possibly edited) input
    line there and arriving at a slot shows what was stored — so coming back to an
    entry returns the edited-but-unsubmitted text. Holds along every action sequence. -/
theorem C18_edits_recalled (file : Str) (m : Nat) (navs : List Nav) :
    abs (navs.foldl navStep { h := load file m, input := [] }) =
      (navs.map (fun | .prev => SlotOp.prev | .next => .next | .edit t => .edit t)).foldl
        Slots.step (abs { h := load file m, input := [] }) :=
  (navs_sim navs _ [] (load_holds file m)).2

example : session [97, 10, 98] 3 [.prev, .edit [120], .next, .edit [99], .prev] true
    = render [[97], [98], [120]] := by decide

-- slot editor: edit entry `b` to `x`, go away and come back: `x` is shown
example : (([Nav.prev, .edit [120], .prev, .next].foldl navStep
    { h := load [97, 10, 98, 10] 5, input := [] }).input) = [120] := by decide

-- and a later submit leaves `b` in the file
example : session [97, 10, 98, 10] 5 [.prev, .edit [120], .prev, .next, .next, .edit [99]] true
    = render [[97], [98], [99]] := by decide

end Fzf.Props.C18
