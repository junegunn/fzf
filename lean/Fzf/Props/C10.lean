import Fzf.Lemmas.Pattern
import Fzf.Lemmas.Tokenizer
import Fzf.Lemmas.Transform
/-
C10 — field expressions select exactly the documented fields.
-/
namespace Fzf.Props.C10
open Fzf Fzf.Tokenizer

/-- AWK-style splitting partitions the line: the ignored leading blanks followed by the fields
    give back the line, for every line. -/
theorem C10_partition_awk (s : Str) :
    s.takeWhile isAwkWhite ++ joinTokens (tokenize s .awk) = s := by
  simp only [tokenize, joinTokens_withPrefixLengths]
  exact awk_partition s

/-- A literal delimiter partitions the line: the fields (each ending with its delimiter)
    concatenated give back the line. -/
theorem C10_partition_str (sep s : Str) (hsep : sep ≠ []) : joinTokens (tokenize s (.str sep)) = s := by
  simp only [tokenize, joinTokens_withPrefixLengths]
  exact splitAfter_partition sep s hsep

/-- A regular-expression delimiter partitions the line, for any well-formed list of match
    locations (what `regexp.FindAllStringIndex` returns: ordered, inside the line). -/
theorem C10_partition_regex (s : Str) (locs : List (Nat × Nat)) (h : LocsOK 0 s.length locs) :
    joinTokens (tokenize s (.regex locs)) = s := by
  simp only [tokenize, joinTokens_withPrefixLengths]
  exact regex_partition s locs h

/-- Each field starts at the character offset recorded for it: the offset of field `k` is the
    number of characters (as `util.Chars` counts them) of everything before it. -/
theorem C10_offsets (toks : List Str) (b k : Nat) (hk : k < toks.length) :
    ((withPrefixLengths toks b)[k]?).map (·.prefixLength) = some (b + ((toks.take k).map charLen).sum) :=
  withPrefixLengths_go_offsets toks b k hk

/-- … in particular for AWK fields the offset counts the ignored leading blanks. -/
theorem C10_offsets_awk (s : Str) (k : Nat) (hk : k < (awkTokenizer s).1.length) :
    ((tokenize s .awk)[k]?).map (·.prefixLength) =
      some ((s.takeWhile isAwkWhite).length + (((awkTokenizer s).1.take k).map charLen).sum) :=
  C10_offsets _ _ k hk

/-- **Field index expressions select exactly the documented fields.** For every list of fields and
    every documented expression — `N`, `A..B`, `A..`, `..B`, `..`, with bounds of any sign and
    magnitude (negative bounds count from the end) — `Transform` yields the concatenation of the
    fields the expression denotes, in order; nothing when the range is empty or lies outside the
    line. `rangeOf` is the (normalised) `Range` that `ParseRange` builds for the expression. -/
theorem C10_transform_selects (tokens : List Token) (ex : Spec.Expr) (hwf : WFExpr ex) :
    (transform tokens [rangeOf ex]).map (·.text) =
      [((Spec.select tokens.length ex).map (fieldText tokens)).flatten] :=
  transform_selects tokens ex hwf

/- The normalisations of `newRange` (`1..k` = `..k`, `k..-1` = `k..`, `-1` alone) are
   meaning-preserving: they are instances of the theorem above. The documented forms are parsed
   into these expressions (kernel-evaluated instances). -/
example : parseRange [49, 46, 46, 51] = some (rangeOf (.range (some 1) (some 3))) := by decide     -- "1..3"
example : parseRange [46, 46, 45, 50] = some (rangeOf (.range none (some (-2)))) := by decide      -- "..-2"
example : parseRange [45, 49] = some (rangeOf (.single (-1))) := by decide                          -- "-1"
example : parseRange [50, 46, 46] = some (rangeOf (.range (some 2) none)) := by decide              -- "2.."
example : parseRange [48] = none ∧ parseRange [45, 50, 46, 46, 51] = none := by decide              -- "0", "-2..3"
example : (transform [⟨[97, 32], 0⟩, ⟨[98, 32], 2⟩, ⟨[99], 4⟩] [rangeOf (.range (some 2) none)]).map (·.text) = [[98, 32, 99]] := by decide

/- Non-vacuity. -/
example : tokenize [32, 97, 32, 32, 98] .awk = [⟨[97, 32, 32], 1⟩, ⟨[98], 4⟩] := by decide
example : LocsOK 0 5 [(1, 2), (3, 5)] := by simp [LocsOK]
example : tokenize [97, 58, 98] (.str [58]) = [⟨[97, 58], 0⟩, ⟨[98], 2⟩] := by decide

/-- **With --nth a term can only match inside the selected fields, and what is reported refers to
    the whole line.** When a term is reported to match (for any of the seven match functions, any
    flags), there is a selected field (token) in which its match function reports the match and
    no earlier selected field has one; the reported range, score and highlight positions are that
    match shifted by the field's character offset in the line (`C10_offsets`: that offset is
    where the field starts). -/
theorem C10_match_inside_selected_field (cfg : Algo.Cfg) (v2 : Bool) (typ : Pattern.TermType) (cs norm fwd : Bool)
    (p : Array Nat) (wp : Bool) (cap : Nat) (toks : List Pattern.Tok) (res : Int × Int × Int × Option (List Nat))
    (h : Pattern.iter cfg v2 typ toks cs norm fwd p wp cap = .ok (some res)) :
    ∃ pre tk post r, toks = pre ++ tk :: post ∧
      Pattern.runTerm cfg v2 typ cs norm fwd tk.text tk.isBytes p wp cap = .ok r ∧ 0 ≤ r.start ∧
      res = (r.start + tk.prefixLength, r.stop + tk.prefixLength, r.score, r.pos.map (·.map (· + tk.prefixLength))) ∧
      ∀ t ∈ pre, ∃ r', Pattern.runTerm cfg v2 typ cs norm fwd t.text t.isBytes p wp cap = .ok r' ∧ r'.start < 0 :=
  Pattern.firstHit_eq_some _ toks res (Pattern.iter_eq_firstHit .. ▸ h)

/-- … and a term is reported as not matching only when it matches in none of the selected fields. -/
theorem C10_no_match_in_any_selected_field (cfg : Algo.Cfg) (v2 : Bool) (typ : Pattern.TermType) (cs norm fwd : Bool)
    (p : Array Nat) (wp : Bool) (cap : Nat) (toks : List Pattern.Tok)
    (h : Pattern.iter cfg v2 typ toks cs norm fwd p wp cap = .ok none) :
    ∀ t ∈ toks, ∃ r, Pattern.runTerm cfg v2 typ cs norm fwd t.text t.isBytes p wp cap = .ok r ∧ r.start < 0 :=
  Pattern.firstHit_eq_none _ toks (Pattern.iter_eq_firstHit .. ▸ h)

end Fzf.Props.C10
